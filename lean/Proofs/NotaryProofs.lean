import CModel.Notary
import Proofs.Lists
/-! C16: what the awaiting-store operations and sealing do when they succeed (the `…_some` lemmas), every path through
each notary call with the state it leaves and the code it answers (the `…_cases` lemmas), what a call thereby does to
the awaiting and the sealed transactions (`Effect`), and the invariant `Inv` that every call keeps. No theorem here
depends on the per-address token lists: `core` is the state without them. -/
namespace CModel.Notary
open CModel.Tx

/- Instance search for these two tries the order-based `BEq` instances of `Std` before it reaches lists, every time a
`simp` or `beq_iff_eq` about byte strings asks; here it is done once. -/
instance : LawfulBEq Bytes := inferInstance
instance : ReflBEq Bytes := inferInstance

theorem verifyIssuerReceiver_issuer {o : Ops} {t : TrxB} (h : verifyIssuerReceiver o t = true) : verifyIssuer o t = true :=
  (Bool.and_eq_true _ _ ▸ h).1

@[simp] theorem setList_awaiting (s : St) (a : Bytes) (v : Tokens) : (setList s a v).awaiting = s.awaiting := rfl
@[simp] theorem setList_sealed (s : St) (a : Bytes) (v : Tokens) : (setList s a v).sealed = s.sealed := rfl
@[simp] theorem setList_chal (s : St) (a : Bytes) (v : Tokens) : (setList s a v).chal = s.chal := rfl
@[simp] theorem setList_flash (s : St) (a : Bytes) (v : Tokens) : (setList s a v).flash = s.flash := rfl
@[simp] theorem delList_awaiting (s : St) (a : Bytes) : (delList s a).awaiting = s.awaiting := rfl
@[simp] theorem delList_sealed (s : St) (a : Bytes) : (delList s a).sealed = s.sealed := rfl
@[simp] theorem delList_chal (s : St) (a : Bytes) : (delList s a).chal = s.chal := rfl
@[simp] theorem delList_flash (s : St) (a : Bytes) : (delList s a).flash = s.flash := rfl

def core (s : St) : List TrxB × List TrxB × List (Bytes × Bytes × Bool) × List Bytes := (s.awaiting, s.sealed, s.chal, s.flash)

@[simp] theorem core_setList (s : St) (a : Bytes) (v : Tokens) : core (setList s a v) = core s := rfl
@[simp] theorem core_delList (s : St) (a : Bytes) : core (delList s a) = core s := rfl

theorem core_saveAddr (s : St) (a h : Bytes) : core (saveAddr s a h) = core s := by
  fun_cases saveAddr s a h <;> rfl

theorem core_removeAddr (s : St) (a h : Bytes) : core (removeAddr s a h) = core s := by
  fun_cases removeAddr s a h <;> rfl

theorem core_eq {s s' : St} (h : core s' = core s) :
    s'.awaiting = s.awaiting ∧ s'.sealed = s.sealed ∧ s'.chal = s.chal ∧ s'.flash = s.flash := by
  unfold core at h
  simp only [Prod.mk.injEq] at h
  exact h

theorem findAwaiting_some {s : St} {h : Bytes} {t : TrxB} (e : findAwaiting s h = some t) : t ∈ s.awaiting ∧ t.hash = h :=
  ⟨List.mem_of_find?_eq_some e, by simpa using List.find?_some e⟩

theorem findAwaiting_none {s : St} {h : Bytes} : findAwaiting s h = none ↔ ∀ t ∈ s.awaiting, t.hash ≠ h :=
  List.find?_eq_none.trans ⟨fun H t ht => mt beq_iff_eq.2 (H t ht), fun H t ht => mt beq_iff_eq.1 (H t ht)⟩

/-- what `removeAwaiting s h a = .removed t s1` tells -/
structure Removed (s : St) (h a : Bytes) (t : TrxB) (s1 : St) : Prop where
  mem : t ∈ s.awaiting
  hash : t.hash = h
  receiver : t.receiver = a
  awaiting : s1.awaiting = s.awaiting.filter (·.hash != h)
  sealed : s1.sealed = s.sealed
  chal : s1.chal = s.chal
  flash : s1.flash = s.flash

theorem removeAwaiting_removed {s s1 : St} {h a : Bytes} {t : TrxB} (e : removeAwaiting s h a = .removed t s1) :
    Removed s h a t s1 := by
  revert e
  fun_cases removeAwaiting s h a with
  | case1 => nofun
  | case2 => nofun
  | case3 t0 hf hr =>
    intro e; cases e
    obtain ⟨ea, es, ec, ef⟩ := core_eq (foldl_keeps _ core (fun s x => core_removeAddr s x h) [t.issuer, t.receiver]
      { s with awaiting := s.awaiting.filter (·.hash != h) })
    exact ⟨(findAwaiting_some hf).1, (findAwaiting_some hf).2, by simpa using hr, ea, es, ec, ef⟩

theorem removeAwaiting_gone {s s1 : St} {h a : Bytes} {t0 t : TrxB} (hn : (s.awaiting.map (·.hash)).Nodup)
    (e : removeAwaiting s h a = .removed t0 s1) (ht : t ∈ s.awaiting) (hgone : t ∉ s1.awaiting) :
    h = t.hash ∧ a = t.receiver := by
  have r := removeAwaiting_removed e
  have : t.hash = h := Decidable.by_contra fun hq => hgone (r.awaiting ▸ List.mem_filter.mpr ⟨ht, by simpa using hq⟩)
  cases nodup_map_inj hn ht r.mem (this.trans r.hash.symm)
  exact ⟨this.symm, r.receiver.symm⟩

/-- what `saveAwaiting s t = some s'` tells -/
structure Saved (s : St) (t : TrxB) (s' : St) : Prop where
  fresh : ∀ x ∈ s.awaiting, x.hash ≠ t.hash
  awaiting : s'.awaiting = s.awaiting ++ [t]
  sealed : s'.sealed = s.sealed
  chal : s'.chal = s.chal
  flash : s'.flash = s.flash

theorem saveAwaiting_some {s s' : St} {t : TrxB} (e : saveAwaiting s t = some s') : Saved s t s' := by
  revert e
  fun_cases saveAwaiting s t with
  | case1 => nofun
  | case2 hf =>
    intro e; cases e
    obtain ⟨ea, es, ec, ef⟩ := core_eq (foldl_keeps _ core (fun s a => core_saveAddr s a t.hash)
      (if t.issuer == t.receiver then [t.receiver] else [t.issuer, t.receiver]) { s with awaiting := s.awaiting ++ [t] })
    exact ⟨findAwaiting_none.1 hf, ea, es, ec, ef⟩

theorem readAwaiting_core (s : St) (a : Bytes) : core (readAwaiting s a).1 = core s := by
  fun_cases readAwaiting s a with
  | case1 => rfl
  | case2 => rfl
  | case3 v hg he hs found missing s' =>
    refine foldl_keeps _ core (fun s h => ?_) missing s
    cases getList s a with
    | none => rfl
    | some w =>
      show core (if (w == [none]) = true then s else setList s a (tRemove w h)) = core s
      split <;> rfl

/-- what a successful `sealTrx s t lo` / `sealRej s t lo` tells of the new state `s'` -/
structure Sealed (s : St) (t : TrxB) (lo : Bool) (s' : St) : Prop where
  fresh : isSealed s t.hash = false
  ledgerOk : lo = true
  sealed : s'.sealed = t :: s.sealed
  awaiting : s'.awaiting = s.awaiting
  chal : s'.chal = s.chal

/-- stated for the literal `if` that `sealTrx` and `sealRej` both unfold to (they differ in the throttle set `fl`), so
that it proves `sealTrx_some` and `sealRej_some` as it stands -/
theorem seal_some {s s' : St} {t : TrxB} {lo : Bool} {fl : List Bytes}
    (e : (if isSealed s t.hash || !lo then none else some { s with sealed := t :: s.sealed, flash := fl }) = some s') :
    Sealed s t lo s' := by
  split at e
  · cases e
  · rename_i h
    cases e
    simp only [Bool.or_eq_true, Bool.not_eq_eq_eq_not, Bool.not_true, not_or, Bool.not_eq_true, Bool.not_eq_false] at h
    exact ⟨h.1, h.2, rfl, rfl, rfl⟩

theorem sealTrx_some {s s' : St} {t : TrxB} {lo : Bool} (e : sealTrx s t lo = some s') : Sealed s t lo s' := seal_some e

theorem sealRej_some {s s' : St} {t : TrxB} {lo : Bool} (e : sealRej s t lo = some s') : Sealed s t lo s' := seal_some e

theorem sealTrx_none {s : St} {t : TrxB} {lo : Bool} (e : sealTrx s t lo = none) : isSealed s t.hash = true ∨ lo = false := by
  cases hs : isSealed s t.hash with
  | true => exact .inl rfl
  | false =>
    cases lo with
    | false => exact .inr rfl
    | true => rw [sealTrx, hs] at e; cases e

theorem isSealed_false {s : St} {h : Bytes} (e : isSealed s h = false) : ∀ t ∈ s.sealed, t.hash ≠ h := by
  unfold isSealed at e
  intro t ht hh
  have := List.any_eq_false.mp e t ht
  simp [hh] at this

theorem validChallenge_iff (s : St) (a b : Bytes) :
    validChallenge s a b = true ↔ s.chal.find? (·.1 == a) = some (a, b, true) := by
  unfold validChallenge
  cases h : s.chal.find? (·.1 == a) with
  | none => exact ⟨nofun, nofun⟩
  | some e =>
    obtain ⟨a', b', f⟩ := e
    have : a' = a := by simpa using List.find?_some h
    simp only [this, Bool.and_eq_true, beq_iff_eq, Option.some.injEq, Prod.mk.injEq, true_and, and_comm]

theorem find?_provideData (s : St) (a b : Bytes) : (provideData s a b).chal.find? (·.1 == a) = some (a, b, true) :=
  List.find?_cons_of_pos (beq_self_eq_true a)

theorem expireAll_stale {s : St} {e : Bytes × Bytes × Bool} (h : e ∈ (expireAll s).chal) : e.2.2 = false := by
  obtain ⟨x, _, rfl⟩ := List.mem_map.mp h
  rfl

/- `fun_cases` on a handler hands over its guards as the code tests them, `(!b) = true` or the negation of that. -/
theorem eq_false_of_not {b : Bool} (h : (!b) = true) : b = false := (Bool.not_eq_true' b).mp h
theorem eq_true_of_not {b : Bool} (h : ¬(!b) = true) : b = true := (Bool.not_eq_false' (b := b)).mp (Bool.eq_false_iff.mpr h)

theorem propose_cases (c : Cfg) (s : St) (t : TrxB) (lo : Bool) :
    verifyIssuer c.o t = false ∧ propose c s t lo = (s, .errVerification) ∨
    verifyIssuer c.o t = true ∧
      (t.data ≠ [] ∧
        ((c.dataSize < t.data.length ∨ saveAwaiting s t = none) ∧ propose c s t lo = (s, .errProcessing) ∨
         ∃ s', t.data.length ≤ c.dataSize ∧ saveAwaiting s t = some s' ∧ propose c s t lo = (s', .ok)) ∨
       t.data = [] ∧
        (sealTrx s t lo = none ∧ propose c s t lo = (s, .errProcessing) ∨
         ∃ s', sealTrx s t lo = some s' ∧ propose c s t lo = (s', .ok))) := by
  fun_cases propose c s t lo with
  | case1 hv => exact .inl ⟨eq_false_of_not hv, rfl⟩
  | case2 hv hd hl =>
    exact .inr ⟨eq_true_of_not hv, .inl ⟨List.isEmpty_eq_false_iff.mp (eq_false_of_not hd), .inl ⟨.inl hl, rfl⟩⟩⟩
  | case3 hv hd hl hs =>
    exact .inr ⟨eq_true_of_not hv, .inl ⟨List.isEmpty_eq_false_iff.mp (eq_false_of_not hd), .inl ⟨.inr hs, rfl⟩⟩⟩
  | case4 hv hd hl s' hs =>
    exact .inr ⟨eq_true_of_not hv, .inl ⟨List.isEmpty_eq_false_iff.mp (eq_false_of_not hd), .inr ⟨s', Nat.le_of_not_lt hl, hs, rfl⟩⟩⟩
  | case5 hv hd hs => exact .inr ⟨eq_true_of_not hv, .inr ⟨List.isEmpty_iff.mp (eq_true_of_not hd), .inl ⟨hs, rfl⟩⟩⟩
  | case6 hv hd s' hs => exact .inr ⟨eq_true_of_not hv, .inr ⟨List.isEmpty_iff.mp (eq_true_of_not hd), .inr ⟨s', hs, rfl⟩⟩⟩

/-- `confirm` seals its argument `t`, whatever transaction `t0` was stored under that hash, `reject` the stored one
(notary.server.go: Confirm hands its own request to CreateLeaf, Reject what RemoveAwaitedTransaction returned). That,
the signature check and its error code are all that distinguishes the two calls, so every lemma about `confirm`, here
and in C16, has a twin about `reject` with the same proof. One statement for both would have to speak of a handler
abstracted over these three, which the model does not have and no theorem about the calls mentions. -/
theorem confirm_cases (c : Cfg) (s : St) (t : TrxB) (lo : Bool) :
    verifyIssuerReceiver c.o t = false ∧ confirm c s t lo = (s, .errVerification) ∨
    verifyIssuerReceiver c.o t = true ∧
      (removeAwaiting s t.hash t.receiver = .notFound ∧ confirm c s t lo = (s, .errNoData) ∨
       removeAwaiting s t.hash t.receiver = .unauthorized ∧ confirm c s t lo = (s, .errProcessing) ∨
       ∃ t0 s1, removeAwaiting s t.hash t.receiver = .removed t0 s1 ∧
        (sealTrx s1 t lo = none ∧ confirm c s t lo = (s1, .errProcessing) ∨
         ∃ s2, sealTrx s1 t lo = some s2 ∧ confirm c s t lo = (s2, .ok))) := by
  fun_cases confirm c s t lo with
  | case1 hv => exact .inl ⟨eq_false_of_not hv, rfl⟩
  | case2 hv e => exact .inr ⟨eq_true_of_not hv, .inl ⟨e, rfl⟩⟩
  | case3 hv e => exact .inr ⟨eq_true_of_not hv, .inr (.inl ⟨e, rfl⟩)⟩
  | case4 hv t0 s1 e hs => exact .inr ⟨eq_true_of_not hv, .inr (.inr ⟨t0, s1, e, .inl ⟨hs, rfl⟩⟩)⟩
  | case5 hv t0 s1 e s2 hs => exact .inr ⟨eq_true_of_not hv, .inr (.inr ⟨t0, s1, e, .inr ⟨s2, hs, rfl⟩⟩)⟩

theorem reject_cases (c : Cfg) (s : St) (r : SignedHash) (lo : Bool) :
    verifySH c r = false ∧ reject c s r lo = (s, .errProcessing) ∨
    verifySH c r = true ∧
      (removeAwaiting s r.data r.address = .notFound ∧ reject c s r lo = (s, .errNoData) ∨
       removeAwaiting s r.data r.address = .unauthorized ∧ reject c s r lo = (s, .errProcessing) ∨
       ∃ t0 s1, removeAwaiting s r.data r.address = .removed t0 s1 ∧
        (sealRej s1 t0 lo = none ∧ reject c s r lo = (s1, .errProcessing) ∨
         ∃ s2, sealRej s1 t0 lo = some s2 ∧ reject c s r lo = (s2, .ok))) := by
  fun_cases reject c s r lo with
  | case1 hv => exact .inl ⟨eq_false_of_not hv, rfl⟩
  | case2 hv e => exact .inr ⟨eq_true_of_not hv, .inl ⟨e, rfl⟩⟩
  | case3 hv e => exact .inr ⟨eq_true_of_not hv, .inr (.inl ⟨e, rfl⟩)⟩
  | case4 hv t0 s1 e hs => exact .inr ⟨eq_true_of_not hv, .inr (.inr ⟨t0, s1, e, .inl ⟨hs, rfl⟩⟩)⟩
  | case5 hv t0 s1 e s2 hs => exact .inr ⟨eq_true_of_not hv, .inr (.inr ⟨t0, s1, e, .inr ⟨s2, hs, rfl⟩⟩)⟩

theorem waiting_cases (c : Cfg) (s : St) (r : SignedHash) :
    (validChallenge s r.address r.data = false ∨ verifySH c r = false) ∧ waiting c s r = (s, .errVerification, []) ∨
    validChallenge s r.address r.data = true ∧ verifySH c r = true ∧
      ((∃ s', readAwaiting s r.address = (s', none) ∧ waiting c s r = (s', .errProcessing, [])) ∨
       ∃ s' ts, readAwaiting s r.address = (s', some ts) ∧ waiting c s r = (s', .ok, ts)) := by
  fun_cases waiting c s r with
  | case1 hc => exact .inl ⟨.inl (eq_false_of_not hc), rfl⟩
  | case2 hc hv => exact .inl ⟨.inr (eq_false_of_not hv), rfl⟩
  | case3 hc hv s' e => exact .inr ⟨eq_true_of_not hc, eq_true_of_not hv, .inl ⟨s', e, rfl⟩⟩
  | case4 hc hv s' ts e => exact .inr ⟨eq_true_of_not hc, eq_true_of_not hv, .inr ⟨s', ts, e, rfl⟩⟩

theorem waiting_core (c : Cfg) (s : St) (r : SignedHash) : core (waiting c s r).1 = core s := by
  rcases waiting_cases c s r with ⟨_, e⟩ | ⟨_, _, ⟨s', hr, e⟩ | ⟨s', ts, hr, e⟩⟩ <;> rw [e]
  · exact congrArg (core ·.1) hr ▸ readAwaiting_core s r.address
  · exact congrArg (core ·.1) hr ▸ readAwaiting_core s r.address

theorem history_cases (c : Cfg) (s : St) (r : SignedHash) :
    (throttle s r.address).2 = true ∧ history c s r = ((throttle s r.address).1, .errThrottle, []) ∨
    (throttle s r.address).2 = false ∧
      ((validChallenge s r.address r.data = false ∨ verifySH c r = false) ∧
          history c s r = ((throttle s r.address).1, .errVerification, []) ∨
       validChallenge s r.address r.data = true ∧ verifySH c r = true ∧
          history c s r = ((throttle s r.address).1, .ok, s.sealed.filter (involves r.address))) := by
  fun_cases history c s r with
  | case1 s' e => rw [e]; exact .inl ⟨rfl, rfl⟩
  | case2 s' thr e ht hc => rw [e]; exact .inr ⟨Bool.eq_false_iff.mpr ht, .inl ⟨.inl (eq_false_of_not hc), rfl⟩⟩
  | case3 s' thr e ht hc hv => rw [e]; exact .inr ⟨Bool.eq_false_iff.mpr ht, .inl ⟨.inr (eq_false_of_not hv), rfl⟩⟩
  | case4 s' thr e ht hc hv =>
    rw [e]; exact .inr ⟨Bool.eq_false_iff.mpr ht, .inr ⟨eq_true_of_not hc, eq_true_of_not hv, rfl⟩⟩

theorem history_fst (c : Cfg) (s : St) (r : SignedHash) : (history c s r).1 = (throttle s r.address).1 := by
  rcases history_cases c s r with ⟨_, e⟩ | ⟨_, ⟨_, e⟩ | ⟨_, _, e⟩⟩ <;> rw [e]

theorem balance_cases (c : Cfg) (s : St) (r : SignedHash) (lo : Bool) :
    (throttle s r.address).2 = true ∧ balance c s r lo = ((throttle s r.address).1, .errThrottle) ∨
    (throttle s r.address).2 = false ∧
      ((r.data ≠ r.address ∨ verifySH c r = false) ∧ balance c s r lo = ((throttle s r.address).1, .errVerification) ∨
       r.data = r.address ∧ verifySH c r = true ∧
        (lo = false ∧ balance c s r lo = ((throttle s r.address).1, .errProcessing) ∨
         lo = true ∧ balance c s r lo = ((throttle s r.address).1, .ok))) := by
  fun_cases balance c s r lo with
  | case1 s' e => rw [e]; exact .inl ⟨rfl, rfl⟩
  | case2 s' thr e ht hd => rw [e]; exact .inr ⟨Bool.eq_false_iff.mpr ht, .inl ⟨.inl (bne_iff_ne.mp hd), rfl⟩⟩
  | case3 s' thr e ht hd hv => rw [e]; exact .inr ⟨Bool.eq_false_iff.mpr ht, .inl ⟨.inr (eq_false_of_not hv), rfl⟩⟩
  | case4 s' thr e ht hd hv hl =>
    rw [e]; exact .inr ⟨Bool.eq_false_iff.mpr ht, .inr ⟨Decidable.of_not_not (mt bne_iff_ne.mpr hd), eq_true_of_not hv, .inl ⟨eq_false_of_not hl, rfl⟩⟩⟩
  | case5 s' thr e ht hd hv hl =>
    rw [e]; exact .inr ⟨Bool.eq_false_iff.mpr ht, .inr ⟨Decidable.of_not_not (mt bne_iff_ne.mpr hd), eq_true_of_not hv, .inr ⟨eq_true_of_not hl, rfl⟩⟩⟩

theorem balance_fst (c : Cfg) (s : St) (r : SignedHash) (lo : Bool) : (balance c s r lo).1 = (throttle s r.address).1 := by
  rcases balance_cases c s r lo with ⟨_, e⟩ | ⟨_, ⟨_, e⟩ | ⟨_, _, ⟨_, e⟩ | ⟨_, e⟩⟩⟩ <;> rw [e]

/-- the receiver acted on `t` -/
def Justified (c : Cfg) (past : List Op) (t : TrxB) : Prop :=
  verifyIssuerReceiver c.o t = true ∨
  ∃ r lo, Op.reject r lo ∈ past ∧ r.data = t.hash ∧ r.address = t.receiver ∧ verifySH c r = true

theorem Justified.mono {c : Cfg} {past : List Op} {t : TrxB} (op : Op) (h : Justified c past t) : Justified c (past ++ [op]) t := by
  rcases h with h | ⟨r, lo, hm, h⟩
  · exact Or.inl h
  · exact Or.inr ⟨r, lo, List.mem_append_left _ hm, h⟩

/-- What the calls `past` leave of a notary that started with the ledger `base` and nothing awaiting: the sealed
transactions that are not from `base` are issuer-signed, and those with data are `Justified` by `past`. -/
structure Inv (c : Cfg) (base : List TrxB) (past : List Op) (s : St) : Prop where
  awaitingVerified : ∀ t ∈ s.awaiting, verifyIssuer c.o t = true ∧ t.data ≠ []
  sealedJustified : ∀ t ∈ s.sealed, t ∈ base ∨ (verifyIssuer c.o t = true ∧ (t.data ≠ [] → Justified c past t))
  sealedOnce : (s.sealed.map (·.hash)).Nodup
  awaitingOnce : (s.awaiting.map (·.hash)).Nodup

theorem inv_start (c : Cfg) {base : List TrxB} (hb : (base.map (·.hash)).Nodup) : Inv c base [] { sealed := base } where
  awaitingVerified := fun _ => nofun
  sealedJustified := fun _ ht => .inl ht
  sealedOnce := hb
  awaitingOnce := .nil

namespace Inv
variable {c : Cfg} {base : List TrxB} {past : List Op} {s : St}

theorem past_mono (op : Op) (h : Inv c base past s) : Inv c base (past ++ [op]) s :=
  ⟨h.awaitingVerified, fun t ht => (h.sealedJustified t ht).imp id (fun ⟨a, b⟩ => ⟨a, fun hd => (b hd).mono op⟩), h.sealedOnce, h.awaitingOnce⟩

theorem sub {s' : St} (h : Inv c base past s) (ha : s'.awaiting.Sublist s.awaiting) (hs : s'.sealed.Sublist s.sealed) :
    Inv c base past s' :=
  ⟨fun t ht => h.awaitingVerified t (ha.subset ht), fun t ht => h.sealedJustified t (hs.subset ht),
   (hs.map _).nodup h.sealedOnce, (ha.map _).nodup h.awaitingOnce⟩

theorem removed {s1 : St} {hh a : Bytes} {t0 : TrxB} (h : Inv c base past s)
    (e : removeAwaiting s hh a = .removed t0 s1) : Inv c base past s1 :=
  h.sub ((removeAwaiting_removed e).awaiting ▸ List.filter_sublist) ((removeAwaiting_removed e).sealed ▸ .refl _)

theorem sealed {s2 : St} {t : TrxB} {lo : Bool} (h : Inv c base past s) (e : Sealed s t lo s2)
    (hv : verifyIssuer c.o t = true) (hj : t.data ≠ [] → Justified c past t) : Inv c base past s2 := by
  refine ⟨e.awaiting ▸ h.awaitingVerified, fun x hx => ?_, e.sealed ▸ nodup_map_cons h.sealedOnce (isSealed_false e.fresh),
    e.awaiting ▸ h.awaitingOnce⟩
  rcases List.mem_cons.mp (e.sealed ▸ hx) with rfl | hx
  · exact Or.inr ⟨hv, hj⟩
  · exact h.sealedJustified x hx

theorem saved {s' : St} {t : TrxB} (h : Inv c base past s) (e : Saved s t s') (hv : verifyIssuer c.o t = true)
    (hd : t.data ≠ []) : Inv c base past s' := by
  refine ⟨fun x hx => ?_, e.sealed ▸ h.sealedJustified, e.sealed ▸ h.sealedOnce,
    e.awaiting ▸ nodup_map_concat h.awaitingOnce e.fresh⟩
  rcases List.mem_append.mp (e.awaiting ▸ hx) with hx | hx
  · exact h.awaitingVerified x hx
  · cases List.mem_singleton.mp hx; exact ⟨hv, hd⟩

end Inv

/-- What a call can do to the awaiting and the sealed transactions. `frame`: it leaves the awaiting ones alone and at
most forgets sealed ones (`ledgerDrop`); that is every call except a `propose`, `confirm` or `reject` that gets past
its checks. -/
inductive Effect (c : Cfg) (s : St) : Op → St → Prop
  | frame {op s'} : s'.awaiting = s.awaiting → s'.sealed.Sublist s.sealed → Effect c s op s'
  | saved {t lo s'} : verifyIssuer c.o t = true → t.data ≠ [] → Saved s t s' → Effect c s (.propose t lo) s'
  | sealed {t lo s'} : verifyIssuer c.o t = true → t.data = [] → Sealed s t lo s' → Effect c s (.propose t lo) s'
  | confirmed {t lo t0 s1 s'} : verifyIssuerReceiver c.o t = true → removeAwaiting s t.hash t.receiver = .removed t0 s1 →
      s' = s1 ∨ Sealed s1 t lo s' → Effect c s (.confirm t lo) s'
  | rejected {r lo t0 s1 s'} : verifySH c r = true → removeAwaiting s r.data r.address = .removed t0 s1 →
      s' = s1 ∨ Sealed s1 t0 lo s' → Effect c s (.reject r lo) s'

theorem step_effect (c : Cfg) (s : St) (op : Op) : Effect c s op (step c s op).1 := by
  cases op with
  | propose t lo =>
    rw [step]
    rcases propose_cases c s t lo with ⟨_, e⟩ | ⟨hv, ⟨hd, ⟨_, e⟩ | ⟨s', _, hs, e⟩⟩ | ⟨hd, ⟨_, e⟩ | ⟨s', hs, e⟩⟩⟩ <;> rw [e]
    · exact .frame rfl (.refl _)
    · exact .frame rfl (.refl _)
    · exact .saved hv hd (saveAwaiting_some hs)
    · exact .frame rfl (.refl _)
    · exact .sealed hv hd (sealTrx_some hs)
  | confirm t lo =>
    rw [step]
    rcases confirm_cases c s t lo with ⟨_, e⟩ | ⟨hv, ⟨_, e⟩ | ⟨_, e⟩ | ⟨t0, s1, hr, ⟨_, e⟩ | ⟨s2, hs, e⟩⟩⟩ <;> rw [e]
    · exact .frame rfl (.refl _)
    · exact .frame rfl (.refl _)
    · exact .frame rfl (.refl _)
    · exact .confirmed hv hr (.inl rfl)
    · exact .confirmed hv hr (.inr (sealTrx_some hs))
  | reject r lo =>
    rw [step]
    rcases reject_cases c s r lo with ⟨_, e⟩ | ⟨hv, ⟨_, e⟩ | ⟨_, e⟩ | ⟨t0, s1, hr, ⟨_, e⟩ | ⟨s2, hs, e⟩⟩⟩ <;> rw [e]
    · exact .frame rfl (.refl _)
    · exact .frame rfl (.refl _)
    · exact .frame rfl (.refl _)
    · exact .rejected hv hr (.inl rfl)
    · exact .rejected hv hr (.inr (sealRej_some hs))
  | waiting r => obtain ⟨ea, es, _⟩ := core_eq (waiting_core c s r); exact .frame ea (es ▸ .refl _)
  | history r => show Effect c s _ (history c s r).1; rw [history_fst]; exact .frame rfl (.refl _)
  | balance r lo => show Effect c s _ (balance c s r lo).1; rw [balance_fst]; exact .frame rfl (.refl _)
  | ledgerDrop hs => exact .frame rfl List.filter_sublist
  | data a b => exact .frame rfl (.refl _)
  | expire => exact .frame rfl (.refl _)
  | saved r => exact .frame rfl (.refl _)

/-- The awaiting transactions only ever shrink by a `removeAwaiting` that a verified `confirm` or `reject` made, for
the hash and the address of its request. -/
theorem step_awaiting (c : Cfg) (s : St) (op : Op) :
    s.awaiting ⊆ (step c s op).1.awaiting ∨
    ∃ h a t0 s1, removeAwaiting s h a = .removed t0 s1 ∧ (step c s op).1.awaiting = s1.awaiting ∧
      ((∃ t lo, op = .confirm t lo ∧ t.hash = h ∧ t.receiver = a ∧ verifyIssuerReceiver c.o t = true) ∨
       ∃ r lo, op = .reject r lo ∧ r.data = h ∧ r.address = a ∧ verifySH c r = true) := by
  have he := step_effect c s op
  generalize (step c s op).1 = s' at he ⊢
  cases he with
  | frame ea _ => exact .inl (ea ▸ List.Subset.refl _)
  | saved _ _ hs => exact .inl (hs.awaiting ▸ List.subset_append_left _ _)
  | sealed _ _ hs => exact .inl (hs.awaiting ▸ List.Subset.refl _)
  | confirmed hv hr hs =>
    exact .inr ⟨_, _, _, _, hr, hs.elim (congrArg _) (·.awaiting), .inl ⟨_, _, rfl, rfl, rfl, hv⟩⟩
  | rejected hv hr hs =>
    exact .inr ⟨_, _, _, _, hr, hs.elim (congrArg _) (·.awaiting), .inr ⟨_, _, rfl, rfl, rfl, hv⟩⟩

theorem inv_step {c : Cfg} {base : List TrxB} {past : List Op} {s : St} (op : Op) (h0 : Inv c base past s) :
    Inv c base (past ++ [op]) (step c s op).1 := by
  have h := h0.past_mono op
  have he := step_effect c s op
  generalize (step c s op).1 = s' at he ⊢
  cases he with
  | frame ea es => exact h.sub (ea ▸ .refl _) es
  | saved hv hd hs => exact h.saved hs hv hd
  | sealed hv hd hs => exact h.sealed hs hv (absurd hd)
  | confirmed hv hr hs =>
    rcases hs with rfl | hs
    · exact h.removed hr
    · exact (h.removed hr).sealed hs (verifyIssuerReceiver_issuer hv) fun _ => .inl hv
  | @rejected r lo t0 s1 _ hv hr hs =>
    rcases hs with rfl | hs
    · exact h.removed hr
    · have r0 := removeAwaiting_removed hr
      exact (h.removed hr).sealed hs (h.awaitingVerified t0 r0.mem).1 fun _ =>
        .inr ⟨r, lo, List.mem_append_right _ (.head _), r0.hash.symm, r0.receiver.symm, hv⟩
theorem inv_run {c : Cfg} {base : List TrxB} (ops : List Op) {past : List Op} {s : St} (h : Inv c base past s) :
    Inv c base (past ++ ops) (run c s ops) := by
  induction ops generalizing past s with
  | nil => simpa [run] using h
  | cons op ops ih =>
    have := ih (inv_step op h)
    simpa [run, List.append_assoc] using this

end CModel.Notary
