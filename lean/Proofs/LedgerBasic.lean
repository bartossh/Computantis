import CModel.Ledger
import Proofs.Lists
/-! What each ledger primitive does to the fields of a book; the edges a vertex brings with it (`edgesOf`); how
`insertLinked` can end. -/
namespace CModel.Book
open CModel

@[simp] theorem deleteVertex_verts (b : Book) (h : Hash) : (b.deleteVertex h).verts = b.verts.filter (·.hash != h) := rfl
@[simp] theorem deleteVertex_edges (b : Book) (h : Hash) :
    (b.deleteVertex h).edges = b.edges.filter (fun e => e.1 != h && e.2 != h) := rfl
@[simp] theorem deleteVertex_index (b : Book) (h : Hash) : (b.deleteVertex h).index = b.index := rfl
@[simp] theorem deleteVertex_cpVerts (b : Book) (h : Hash) : (b.deleteVertex h).cpVerts = b.cpVerts := rfl
@[simp] theorem deleteVertex_cpFunds (b : Book) (h : Hash) : (b.deleteVertex h).cpFunds = b.cpFunds := rfl
@[simp] theorem deleteVertex_genesis (b : Book) (h : Hash) : (b.deleteVertex h).genesis = b.genesis := rfl
@[simp] theorem deleteVertex_self (b : Book) (h : Hash) : (b.deleteVertex h).self = b.self := rfl
@[simp] theorem deleteVertex_loaded (b : Book) (h : Hash) : (b.deleteVertex h).loaded = b.loaded := rfl
@[simp] theorem deleteVertex_trusted (b : Book) (h : Hash) : (b.deleteVertex h).trusted = b.trusted := rfl
@[simp] theorem deleteVertex_parked (b : Book) (h : Hash) : (b.deleteVertex h).parked = b.parked := rfl

@[simp] theorem indexRemove_verts (b : Book) (t : Hash) : (b.indexRemove t).verts = b.verts := rfl
@[simp] theorem indexRemove_edges (b : Book) (t : Hash) : (b.indexRemove t).edges = b.edges := rfl
@[simp] theorem indexRemove_index (b : Book) (t : Hash) : (b.indexRemove t).index = b.index.filter (·.1 != t) := rfl
@[simp] theorem indexRemove_cpVerts (b : Book) (t : Hash) : (b.indexRemove t).cpVerts = b.cpVerts := rfl
@[simp] theorem indexRemove_cpFunds (b : Book) (t : Hash) : (b.indexRemove t).cpFunds = b.cpFunds := rfl
@[simp] theorem indexRemove_genesis (b : Book) (t : Hash) : (b.indexRemove t).genesis = b.genesis := rfl
@[simp] theorem indexRemove_self (b : Book) (t : Hash) : (b.indexRemove t).self = b.self := rfl
@[simp] theorem indexRemove_loaded (b : Book) (t : Hash) : (b.indexRemove t).loaded = b.loaded := rfl
@[simp] theorem indexRemove_trusted (b : Book) (t : Hash) : (b.indexRemove t).trusted = b.trusted := rfl
@[simp] theorem indexRemove_parked (b : Book) (t : Hash) : (b.indexRemove t).parked = b.parked := rfl

theorem updateWT_eq (b : Book) (w : UInt64) : ∃ w' t', b.updateWT w = { b with weight := w', throughput := t' } := by
  unfold updateWT
  by_cases h : b.weight < w
  · rw [if_pos h]; exact ⟨_, _, rfl⟩
  · rw [if_neg h]; exact ⟨_, _, rfl⟩
@[simp] theorem updateWT_verts (b : Book) (w : UInt64) : (b.updateWT w).verts = b.verts := by
  obtain ⟨_, _, h⟩ := updateWT_eq b w; rw [h]
@[simp] theorem updateWT_edges (b : Book) (w : UInt64) : (b.updateWT w).edges = b.edges := by
  obtain ⟨_, _, h⟩ := updateWT_eq b w; rw [h]
@[simp] theorem updateWT_index (b : Book) (w : UInt64) : (b.updateWT w).index = b.index := by
  obtain ⟨_, _, h⟩ := updateWT_eq b w; rw [h]
@[simp] theorem updateWT_cpVerts (b : Book) (w : UInt64) : (b.updateWT w).cpVerts = b.cpVerts := by
  obtain ⟨_, _, h⟩ := updateWT_eq b w; rw [h]
@[simp] theorem updateWT_cpFunds (b : Book) (w : UInt64) : (b.updateWT w).cpFunds = b.cpFunds := by
  obtain ⟨_, _, h⟩ := updateWT_eq b w; rw [h]
@[simp] theorem updateWT_genesis (b : Book) (w : UInt64) : (b.updateWT w).genesis = b.genesis := by
  obtain ⟨_, _, h⟩ := updateWT_eq b w; rw [h]
@[simp] theorem updateWT_self (b : Book) (w : UInt64) : (b.updateWT w).self = b.self := by
  obtain ⟨_, _, h⟩ := updateWT_eq b w; rw [h]
@[simp] theorem updateWT_loaded (b : Book) (w : UInt64) : (b.updateWT w).loaded = b.loaded := by
  obtain ⟨_, _, h⟩ := updateWT_eq b w; rw [h]
@[simp] theorem updateWT_trusted (b : Book) (w : UInt64) : (b.updateWT w).trusted = b.trusted := by
  obtain ⟨_, _, h⟩ := updateWT_eq b w; rw [h]
@[simp] theorem updateWT_parked (b : Book) (w : UInt64) : (b.updateWT w).parked = b.parked := by
  obtain ⟨_, _, h⟩ := updateWT_eq b w; rw [h]

theorem indexSave_cases (b : Book) (t v : Hash) :
    (b.indexHas t = true ∧ b.indexSave t v = none) ∨
    (b.indexHas t = false ∧ b.indexSave t v = some { b with index := b.index ++ [(t, v)] }) := by
  unfold indexSave; cases b.indexHas t <;> simp

theorem addVertex_cases (b : Book) (v : Vertex) :
    (b.hasVertex v.hash = true ∧ b.addVertex v = none) ∨
    (b.hasVertex v.hash = false ∧ b.addVertex v = some { b with verts := b.verts ++ [v] }) := by
  unfold addVertex; cases b.hasVertex v.hash <;> simp

theorem indexSave_some {b b' : Book} {t v : Hash} (h : b.indexSave t v = some b') :
    b.indexHas t = false ∧ b' = { b with index := b.index ++ [(t, v)] } := by
  simp only [indexSave, Option.ite_none_left_eq_some, Option.some.injEq, Bool.not_eq_true] at h
  exact ⟨h.1, h.2.symm⟩

theorem addVertex_some {b b' : Book} {v : Vertex} (h : b.addVertex v = some b') :
    b.hasVertex v.hash = false ∧ b' = { b with verts := b.verts ++ [v] } := by
  simp only [addVertex, Option.ite_none_left_eq_some, Option.some.injEq, Bool.not_eq_true] at h
  exact ⟨h.1, h.2.symm⟩

theorem addEdge_some {b b' : Book} {s d : Hash} (h : b.addEdge s d = some b') :
    b.hasVertex s = true ∧ b.hasVertex d = true ∧ s ≠ d ∧ b' = { b with edges := b.edges ++ [(s, d)] } := by
  simp only [addEdge, Option.ite_none_left_eq_some, Option.some.injEq, Bool.or_eq_true, Bool.not_eq_true', not_or,
    Bool.not_eq_false, beq_iff_eq] at h
  exact ⟨h.1.1, h.1.2, h.2.1, h.2.2.2.2.symm⟩

theorem hasVertex_iff (b : Book) (h : Hash) : b.hasVertex h = true ↔ ∃ v ∈ b.verts, v.hash = h :=
  List.any_eq_true.trans (exists_congr fun _ => and_congr_right fun _ => beq_iff_eq)
theorem cpHasVertex_iff (b : Book) (h : Hash) : b.cpHasVertex h = true ↔ ∃ v ∈ b.cpVerts, v.hash = h :=
  List.any_eq_true.trans (exists_congr fun _ => and_congr_right fun _ => beq_iff_eq)
theorem indexHas_iff (b : Book) (t : Hash) : b.indexHas t = true ↔ ∃ v, (t, v) ∈ b.index := by
  simp only [indexHas, List.any_eq_true, beq_iff_eq]
  constructor
  · rintro ⟨⟨_, v⟩, he, rfl⟩; exact ⟨v, he⟩
  · rintro ⟨v, hv⟩; exact ⟨(t, v), hv, rfl⟩
theorem hasVertex_eq_false {b : Book} {h : Hash} : b.hasVertex h = false ↔ ∀ v ∈ b.verts, v.hash ≠ h :=
  List.any_eq_false.trans (forall₂_congr fun _ _ => not_congr beq_iff_eq)
theorem cpHasVertex_eq_false {b : Book} {h : Hash} : b.cpHasVertex h = false ↔ ∀ v ∈ b.cpVerts, v.hash ≠ h :=
  List.any_eq_false.trans (forall₂_congr fun _ _ => not_congr beq_iff_eq)
theorem indexHas_eq_false {b : Book} {t : Hash} : b.indexHas t = false ↔ ∀ e ∈ b.index, e.1 ≠ t :=
  List.any_eq_false.trans (forall₂_congr fun _ _ => not_congr beq_iff_eq)
theorem isLeaf_eq_false (b : Book) (h : Hash) : b.isLeaf h = false ↔ ∃ c, (h, c) ∈ b.edges := by
  simp only [isLeaf, Bool.not_eq_eq_eq_not, Bool.not_false, List.any_eq_true, beq_iff_eq]
  constructor
  · rintro ⟨⟨_, c⟩, he, rfl⟩; exact ⟨c, he⟩
  · rintro ⟨c, hc⟩; exact ⟨(h, c), hc, rfl⟩

theorem hasVertex_congr {b b' : Book} (h : b'.verts = b.verts) (x : Hash) : b'.hasVertex x = b.hasVertex x := by
  rw [hasVertex, h]; rfl
theorem cpHasVertex_congr {b b' : Book} (h : b'.cpVerts = b.cpVerts) (x : Hash) : b'.cpHasVertex x = b.cpHasVertex x := by
  rw [cpHasVertex, h]; rfl

theorem hasVertex_concat (b : Book) (v : Vertex) (x : Hash) :
    ({ b with verts := b.verts ++ [v] } : Book).hasVertex x = (b.hasVertex x || v.hash == x) := by
  simp only [hasVertex, List.any_append, List.any_cons, List.any_nil, Bool.or_false]

theorem hasVertex_append (b : Book) (v : Vertex) (x : Hash) (h : b.hasVertex x = true) :
    ({ b with verts := b.verts ++ [v] } : Book).hasVertex x = true := by
  rw [hasVertex_concat, h]; rfl

theorem hasVertex_deleteVertex (b : Book) (h : Hash) : (b.deleteVertex h).hasVertex h = false :=
  hasVertex_eq_false.2 fun _ hv => by simpa using (List.mem_filter.1 hv).2

theorem indexHas_indexRemove (b : Book) (t : Hash) : (b.indexRemove t).indexHas t = false :=
  indexHas_eq_false.2 fun _ he => by simpa using (List.mem_filter.1 he).2

theorem filter_not_live {b : Book} {x : Hash} (hx : b.hasVertex x = false) :
    b.verts.filter (fun v => !(v.hash == x)) = b.verts :=
  List.filter_eq_self.2 fun v hv => by simpa using hasVertex_eq_false.1 hx v hv

theorem hasVertex_remove {b b' : Book} {gone : Hash → Bool} (hv : b'.verts = b.verts.filter (fun v => !gone v.hash))
    (x : Hash) : b'.hasVertex x = true ↔ b.hasVertex x = true ∧ gone x = false := by
  simp only [hasVertex_iff, hv, List.mem_filter, Bool.not_eq_true']
  exact ⟨fun ⟨v, ⟨hm, hg⟩, e⟩ => ⟨⟨v, hm, e⟩, e ▸ hg⟩, fun ⟨⟨v, hm, e⟩, hg⟩ => ⟨v, ⟨hm, e ▸ hg⟩, e⟩⟩

theorem hasVertex_edges (b : Book) (es : List (Hash × Hash)) (h : Hash) :
    ({ b with edges := es } : Book).hasVertex h = b.hasVertex h := rfl

/-- The edges a vertex brings with it. Both insertion paths and `LoadDag` link a vertex through
`linkNew … 0 [left, right]`, whose `added` argument starts as the zero hash (Go's `addedHash`) and stops the
loop at the first parent equal to its predecessor: no edge for a zero left parent, one edge for equal parents. -/
def edgesOf (v : Vertex) : List (Hash × Hash) :=
  if v.left = 0 then [] else if v.right = v.left then [(v.left, v.hash)] else [(v.left, v.hash), (v.right, v.hash)]

theorem mem_edgesOf (v : Vertex) (e : Hash × Hash) :
    e ∈ edgesOf v ↔ v.left ≠ 0 ∧ (e = (v.left, v.hash) ∨ e = (v.right, v.hash)) := by
  unfold edgesOf
  by_cases hl : v.left = 0
  · simp [hl]
  · by_cases hr : v.right = v.left <;> simp [hl, hr]

theorem snd_of_mem_edgesOf {v : Vertex} {e : Hash × Hash} (he : e ∈ edgesOf v) : e.2 = v.hash := by
  obtain ⟨_, rfl | rfl⟩ := (mem_edgesOf v e).1 he <;> rfl

theorem nodup_edgesOf (v : Vertex) : (edgesOf v).Nodup := by
  unfold edgesOf
  by_cases hl : v.left = 0
  · rw [if_pos hl]; exact List.nodup_nil
  by_cases hr : v.right = v.left
  · rw [if_neg hl, if_pos hr]; exact List.pairwise_singleton _ _
  · rw [if_neg hl, if_neg hr]; simpa using fun h => hr h.symm

theorem linkNew_pair_eq (b : Book) (v : Vertex) :
    linkNew b v.hash 0 [v.left, v.right] = (edgesOf v).foldlM (fun b e => b.addEdge e.1 e.2) b := by
  unfold edgesOf
  by_cases hl : v.left = 0
  · simp [linkNew, hl]
  · by_cases hr : v.right = v.left
    · simp only [linkNew, beq_iff_eq, hl, hr, if_false, if_true, List.foldlM_cons, List.foldlM_nil]
      cases b.addEdge v.left v.hash <;> rfl
    · simp only [linkNew, beq_iff_eq, hl, hr, if_false, List.foldlM_cons, List.foldlM_nil]
      cases b.addEdge v.left v.hash with
      | none => rfl
      | some b1 => simp only [Option.bind_eq_bind, Option.bind_some]; cases b1.addEdge v.right v.hash <;> rfl

theorem foldlM_addEdge_some {es : List (Hash × Hash)} {b b' : Book}
    (h : es.foldlM (fun b e => b.addEdge e.1 e.2) b = some b') :
    b' = { b with edges := b.edges ++ es } ∧ ∀ e ∈ es, b.hasVertex e.1 = true ∧ b.hasVertex e.2 = true ∧ e.1 ≠ e.2 := by
  induction es generalizing b with
  | nil => cases h; exact ⟨by simp, List.forall_mem_nil _⟩
  | cons e es ih =>
    rw [List.foldlM_cons] at h
    cases h1 : b.addEdge e.1 e.2 with
    | none => rw [h1] at h; cases h
    | some b1 =>
      rw [h1] at h
      obtain ⟨h1s, h1d, hne, rfl⟩ := addEdge_some h1
      obtain ⟨rfl, hes⟩ := ih h
      exact ⟨by simp, fun x hx => (List.mem_cons.1 hx).elim (fun e' => e' ▸ ⟨h1s, h1d, hne⟩) (hes x)⟩

theorem linkNew_pair {b b' : Book} {v : Vertex} (h : linkNew b v.hash 0 [v.left, v.right] = some b') :
    b' = { b with edges := b.edges ++ edgesOf v } ∧ ∀ e ∈ edgesOf v, b.hasVertex e.1 = true ∧ e.1 ≠ v.hash := by
  obtain ⟨hb, hes⟩ := foldlM_addEdge_some (linkNew_pair_eq b v ▸ h)
  refine ⟨hb, fun e he => ⟨(hes e he).1, ?_⟩⟩
  have hne := (hes e he).2.2
  obtain ⟨_, rfl | rfl⟩ := (mem_edgesOf v e).1 he <;> exact hne

theorem park_some {b b' : Book} {v : Vertex} {r : Nat} (h : b.park v r = some b') :
    b' = { b with parked := b.parked ++ [(v, r + 1)] } ∧ r ≤ maxRepeats ∧ b.parked.length ≠ maxArraySize := by
  simp only [park, Option.ite_none_left_eq_some, Option.some.injEq, beq_iff_eq] at h
  exact ⟨h.2.2.symm, Nat.le_of_not_gt h.2.1, h.1⟩

theorem getVertex_mem {b : Book} {h : Hash} {v : Vertex} (hv : b.getVertex h = some v) :
    v ∈ b.verts ∧ v.hash = h := by
  unfold getVertex at hv
  exact ⟨List.mem_of_find?_eq_some hv, by simpa using List.find?_some hv⟩

theorem getVertex_of_mem {b : Book} (hnd : (b.verts.map (·.hash)).Nodup) {v : Vertex} (hv : v ∈ b.verts) :
    b.getVertex v.hash = some v := find?_of_nodup_map hnd hv

theorem insertLinked_index_taken (b : Book) (v : Vertex) (ps : List Hash) (h : b.indexHas v.trx.hash = true) :
    insertLinked b v ps = (b, some 1) := by
  unfold insertLinked indexSave
  simp [h]

theorem insertLinked_cases (b : Book) (v : Vertex) :
    (b.indexHas v.trx.hash = true ∧ insertLinked b v [v.left, v.right] = (b, some 1)) ∨
    (b.indexHas v.trx.hash = false ∧ b.hasVertex v.hash = true ∧ insertLinked b v [v.left, v.right] = (b, some 2)) ∨
    (b.indexHas v.trx.hash = false ∧ b.hasVertex v.hash = false ∧
      -- an edge was refused: the `deleteVertex` of the roll-back takes every edge touching the hash with it
      (insertLinked b v [v.left, v.right] =
          ({ b with edges := b.edges.filter (fun e => e.1 != v.hash && e.2 != v.hash) }, some 3) ∨
       (insertLinked b v [v.left, v.right] =
          ({ b with index := b.index ++ [(v.trx.hash, v.hash)], verts := b.verts ++ [v], edges := b.edges ++ edgesOf v }, none) ∧
        ∀ e ∈ edgesOf v, b.hasVertex e.1 = true ∧ e.1 ≠ v.hash))) := by
  rcases indexSave_cases b v.trx.hash v.hash with ⟨hT, e1⟩ | ⟨hT, e1⟩
  · exact .inl ⟨hT, insertLinked_index_taken b v _ hT⟩
  -- each roll-back undoes its append
  have hI : (b.index ++ [(v.trx.hash, v.hash)]).filter (·.1 != v.trx.hash) = b.index :=
    filter_append_singleton _ _ _ (fun x hx => by simpa using indexHas_eq_false.1 hT x hx) (by simp)
  rcases addVertex_cases { b with index := b.index ++ [(v.trx.hash, v.hash)] } v with ⟨hV, e2⟩ | ⟨hV, e2⟩
  · exact .inr (.inl ⟨hT, hV, by simp only [insertLinked, e1, e2, indexRemove, hI]⟩)
  refine .inr (.inr ⟨hT, hV, ?_⟩)
  have hF : (b.verts ++ [v]).filter (·.hash != v.hash) = b.verts :=
    filter_append_singleton _ _ _ (fun x hx => by simpa using hasVertex_eq_false.1 hV x hx) (by simp)
  cases e3 : linkNew { b with index := b.index ++ [(v.trx.hash, v.hash)], verts := b.verts ++ [v] } v.hash 0 [v.left, v.right] with
  | none => exact .inl (by simp only [insertLinked, e1, e2, e3, indexRemove, deleteVertex, hI, hF])
  | some b4 =>
    obtain ⟨rfl, hes⟩ := linkNew_pair e3
    refine .inr ⟨by simp only [insertLinked, e1, e2, e3], fun e he => ⟨?_, (hes e he).2⟩⟩
    -- `linkNew` saw the parent in the book that already holds `v`; it is not `v`, so it was there before
    have hp : (b.hasVertex e.1 || v.hash == e.1) = true := (hasVertex_concat _ v e.1).symm.trans (hes e he).1
    exact (Bool.or_eq_true_iff.1 hp).resolve_right fun hv => (hes e he).2 (beq_iff_eq.1 hv).symm

theorem insertLinked_held (b : Book) (v : Vertex) :
    (insertLinked b v [v.left, v.right]).1.cpVerts = b.cpVerts ∧
    (insertLinked b v [v.left, v.right]).1.parked = b.parked ∧
    ((insertLinked b v [v.left, v.right]).2 = none → (insertLinked b v [v.left, v.right]).1.verts = b.verts ++ [v]) := by
  rcases insertLinked_cases b v with ⟨_, i⟩ | ⟨_, _, i⟩ | ⟨_, _, i | ⟨i, _⟩⟩ <;> rw [i]
  · exact ⟨rfl, rfl, nofun⟩
  · exact ⟨rfl, rfl, nofun⟩
  · exact ⟨rfl, rfl, nofun⟩
  · exact ⟨rfl, rfl, fun _ => rfl⟩

end CModel.Book
