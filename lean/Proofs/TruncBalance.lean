import Proofs.StreamComplete
import Proofs.TruncFunds
/-! C07: a truncation does not change the balance seen from any tip that descends from the cut. -/
namespace CModel.Book
open CModel CModel.Melange

theorem mem_walk_iff (b : Book) (he : EdgeInv b) (hnd : (b.verts.map (·.hash)).Nodup) (t v : Vertex) :
    v ∈ walk b t ↔ v = t ∨ (v ∈ b.verts ∧ Anc b.edges v.hash t.hash) := by
  rw [walk, List.mem_cons, mem_visited hnd, mem_ancestors_iff b fun e hm => (he.live e hm).1]

theorem walk_nodup (b : Book) (he : EdgeInv b) (t : Vertex) : (walk b t).Nodup := by
  refine List.nodup_cons.2 ⟨fun hm => ?_, visited_nodup b (ancestors_nodup b t.hash)⟩
  -- `t` is not among its own ancestors: ranks increase along the edges
  obtain ⟨x, hx, hg⟩ := List.mem_filterMap.1 hm
  obtain ⟨rank, hr⟩ := he.acyclic
  exact Nat.lt_irrefl _ ((getVertex_mem hg).2 ▸ (ancestors_sound b t.hash x hx).rank hr)

/-- Removing the strict ancestors of `cut` (with every edge touching them) splits the walk from any
remaining descendant `t` of the cut: what `t` still reaches in `b'`, and the removed vertices. A path between two vertices
outside the down-closed set of ancestors never enters it, so it survives. -/
theorem walk_split (b : Book) (he : EdgeInv b) (hnd : (b.verts.map (·.hash)).Nodup) (cut : Hash)
    (b' : Book)
    (hverts : b'.verts = b.verts.filter (fun v => !(b.ancestors cut).contains v.hash))
    (hedges : b'.edges = b.edges.filter (fun e => !(b.ancestors cut).contains e.1 && !(b.ancestors cut).contains e.2))
    (t : Vertex) (ht : t ∈ b'.verts) (hdesc : t.hash = cut ∨ Anc b.edges cut t.hash) :
    (walk b t).Perm (walk b' t ++ visited b (b.ancestors cut)) := by
  have anc : ∀ x, x ∈ b.ancestors cut ↔ Anc b.edges x cut := mem_ancestors_iff b (fun e hm => (he.live e hm).1) cut
  have he' : EdgeInv b' := he.remove (fun x => (b.ancestors cut).contains x) hverts hedges
  have hnd' : (b'.verts.map (·.hash)).Nodup := by
    rw [hverts]; exact (List.filter_sublist.map _).nodup hnd
  have unmoved : ∀ v, v ∈ b'.verts ↔ (v ∈ b.verts ∧ v.hash ∉ b.ancestors cut) := by
    intro v; rw [hverts]; simp [List.mem_filter]
  have moved : ∀ x, x ∈ visited b (b.ancestors cut) ↔ x ∈ b.verts ∧ x.hash ∈ b.ancestors cut := fun _ => mem_visited hnd
  have htb := (unmoved t).1 ht
  refine (List.perm_ext_iff_of_nodup (walk_nodup b he t) (List.nodup_append.2 ⟨walk_nodup _ he' t,
    visited_nodup b (ancestors_nodup b cut), ?_⟩)).2 fun v => ?_
  · -- a moved vertex is neither `t` nor a vertex of `b'`
    rintro x hx _ hy rfl
    have hm := ((moved x).1 hy).2
    rcases (mem_walk_iff _ he' hnd' t x).1 hx with rfl | ⟨h1, _⟩
    · exact htb.2 hm
    · exact ((unmoved x).1 h1).2 hm
  · rw [mem_walk_iff b he hnd, List.mem_append, mem_walk_iff _ he' hnd', moved, unmoved]
    by_cases hm : v.hash ∈ b.ancestors cut
    · -- a moved vertex is an ancestor of the cut, hence of `t`
      have hvt : v ≠ t := fun e => htb.2 (e ▸ hm)
      have hat : Anc b.edges v.hash t.hash := hdesc.elim (· ▸ (anc _).1 hm) ((anc _).1 hm).trans
      simp only [hm, hvt, hat, and_true, not_true, and_false, false_and, or_false, false_or]
    · -- an unmoved vertex reaches `t` in `b'` along the paths it has in `b`: they stay outside the moved set
      have hat : Anc b'.edges v.hash t.hash ↔ Anc b.edges v.hash t.hash := by
        refine ⟨Anc.mono fun e hem => (List.mem_filter.1 (hedges ▸ hem)).1, fun ha => ?_⟩
        refine Anc.avoid (· ∈ b.ancestors cut) (fun x y a hy => (anc x).2 (a.trans ((anc y).1 hy))) ha hm _
          fun e hem h1 h2 => ?_
        rw [hedges]
        exact List.mem_filter.2 ⟨hem, by simp [h1, h2]⟩
      simp only [hm, hat, not_false_eq_true, and_true, and_false, or_false]

/-- The arithmetic of "the balance seen from above the cut does not change", in ℕ without subtraction: `i`, `o` are the
flows over the moved vertices, `i'`, `o'` those over what the tip still reaches, `c`, `c'` the checkpoint before and
after, `m`, `m'` the reported balances. -/
theorem balance_shift {m m' c c' i o i' o' cap : Nat} (before : m + (o' + o) = c + (i' + i)) (bound : c + (i' + i) < cap)
    (after : m' + o' = c' + i') (moved : c + i < cap → c' + o = c + i) : m' = m := by
  have hm := moved (Nat.lt_of_le_of_lt (Nat.add_le_add_left (Nat.le_add_left i i') c) bound)
  -- with `o' + o` added, `m'` comes to `c + (i' + i)` as well
  refine Nat.add_right_cancel (m := o' + o) ?_
  rw [before, ← Nat.add_assoc, after, Nat.add_right_comm, hm, Nat.add_assoc, Nat.add_comm i]

end CModel.Book
