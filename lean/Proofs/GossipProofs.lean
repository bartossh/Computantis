import CModel.Gossip
/-! C11 / C12: invariants of `CModel.Gossip`. A delivery is analysed once (`RecvCase`). Each invariant is then
carried along a step by the same three kinds of lemma: one node changes state (`….setNode`), the wire changes
(`Inv.wire`: it may lose messages; `Inv.send`: it may gain one whose verified entries were signed; `Cov.wire`: it may
gain any; `Cov.consume`: one may leave once its receiver holds the item), a node that holds the item fans out
(`….forward`). -/
namespace CModel.Gossip

/-- the lemmas about the fan-out are stated for `fanoutAt`, over any peer list -/
theorem fanout_eq_fanoutAt (c : Cfg) (i : Node) (es : List Entry) : fanout c i es = fanoutAt (c.peers i) i es := rfl

theorem node_setNode (net : Net) (i j : Node) (s : NodeSt) : (net.setNode i s).node j = if j = i then s else net.node j := rfl
@[simp] theorem node_setNode_self (net : Net) (i : Node) (s : NodeSt) : (net.setNode i s).node i = s := if_pos rfl
@[simp] theorem node_setNode_other (net : Net) (i j : Node) (s : NodeSt) (h : j ≠ i) : (net.setNode i s).node j = net.node j := if_neg h
@[simp] theorem setNode_inflight (net : Net) (i : Node) (s : NodeSt) : (net.setNode i s).inflight = net.inflight := rfl
@[simp] theorem setNode_signed (net : Net) (i : Node) (s : NodeSt) : (net.setNode i s).signed = net.signed := rfl
@[simp] theorem setNode_sends (net : Net) (i : Node) (s : NodeSt) : (net.setNode i s).sends = net.sends := rfl

theorem ite_le_one (p : Prop) [Decidable p] : (if p then 1 else 0) ≤ 1 := by split <;> decide

theorem mem_cons_eraseIdx {α : Type} {l : List α} {k : Nat} {m : α} (hk : l[k]? = some m) (x : α) :
    x ∈ m :: l.eraseIdx k ↔ x ∈ l := by
  rw [List.mem_cons, List.mem_eraseIdx_iff_getElem?, List.mem_iff_getElem?]
  constructor
  · rintro (rfl | ⟨i, _, hi⟩)
    · exact ⟨k, hk⟩
    · exact ⟨i, hi⟩
  · rintro ⟨i, hi⟩
    by_cases e : i = k
    · exact .inl (Option.some.inj ((e ▸ hi).symm.trans hk))
    · exact .inr ⟨i, e, hi⟩

theorem forall_setNode {P : Node → NodeSt → Prop} {net : Net} {i : Node} {s : NodeSt}
    (h : ∀ j, j ≠ i → P j (net.node j)) (hs : P i s) (j : Node) : P j ((net.setNode i s).node j) := by
  rw [node_setNode]
  split
  · next e => exact e ▸ hs
  · next e => exact h j e

theorem admitted_setNode {net : Net} {i : Node} {s : NodeSt} (h : (net.node i).admitted = true → s.admitted = true)
    (j : Node) : (net.node j).admitted = true → ((net.setNode i s).node j).admitted = true :=
  forall_setNode (P := fun j s => (net.node j).admitted = true → s.admitted = true) (fun _ _ a => a) h j

theorem mem_verified {es : List Entry} {a : Node} :
    a ∈ verified es ↔ ∃ e ∈ es, e.addr = a ∧ e.signer = e.addr ∧ e.forThis = true := by
  simp only [verified, List.mem_map, List.mem_filter, Bool.and_eq_true, beq_iff_eq]
  exact ⟨fun ⟨e, ⟨he, h⟩, ha⟩ => ⟨e, he, ha, h⟩, fun ⟨e, he, ha, h⟩ => ⟨e, ⟨he, h⟩, ha⟩⟩

theorem mem_forwardEntries {i : Node} {es : List Entry} {e : Entry} :
    e ∈ forwardEntries i es ↔ (e ∈ es ∧ e.signer = e.addr ∧ e.forThis = true) ∨ e = ownEntry i := by
  simp only [forwardEntries, List.mem_append, List.mem_filter, Bool.and_eq_true, beq_iff_eq, List.mem_singleton]

theorem verified_forwardEntries (i : Node) (es : List Entry) : verified (forwardEntries i es) = verified es ++ [i] := by
  simp [verified, forwardEntries, ownEntry, List.filter_append, List.filter_filter]

theorem mem_verified_forwardEntries {i : Node} {es : List Entry} {p : Node} :
    p ∈ verified (forwardEntries i es) ↔ p ∈ verified es ∨ p = i := by
  rw [verified_forwardEntries, List.mem_append, List.mem_singleton]

theorem mem_fanoutAt {ps : List Node} {i : Node} {es : List Entry} {m : Msg} :
    m ∈ fanoutAt ps i es ↔
      (m.dst ∈ ps ∧ ¬(m.dst ∈ verified es ∨ m.dst = i)) ∧ m.authentic = true ∧ m.entries = forwardEntries i es := by
  unfold fanoutAt
  simp only [List.mem_map, List.mem_filter, Bool.not_eq_true', List.contains_eq_mem, decide_eq_false_iff_not,
    mem_verified_forwardEntries]
  constructor
  · rintro ⟨p, hp, rfl⟩; exact ⟨hp, rfl, rfl⟩
  · rintro ⟨hp, ha, he⟩; exact ⟨m.dst, hp, by cases m; cases ha; cases he; rfl⟩

theorem entries_of_mem_fanoutAt {ps : List Node} {i : Node} {es : List Entry} {m : Msg} (h : m ∈ fanoutAt ps i es) :
    m.entries = forwardEntries i es := (mem_fanoutAt.mp h).2.2

theorem fanoutAt_covers {ps : List Node} (i : Node) (es : List Entry) {p : Node} (hp : p ∈ ps) :
    (p ∈ verified es ∨ p = i) ∨ ∃ m ∈ fanoutAt ps i es, m.dst = p ∧ m.authentic = true :=
  if hn : p ∈ verified es ∨ p = i then .inl hn
  else .inr ⟨⟨p, true, forwardEntries i es⟩, mem_fanoutAt.mpr ⟨⟨hp, hn⟩, rfl, rfl⟩, rfl, rfl⟩

theorem fanout_length_le (c : Cfg) (i : Node) (es : List Entry) : (fanout c i es).length ≤ (c.peers i).length := by
  unfold fanout
  simp only [List.length_map]
  exact List.length_filter_le _ _

def nodeProcessed (st : NodeSt) (out : List Msg) : NodeSt :=
  { st with seen := true, calls := st.calls + 1, admitted := true, forwards := st.forwards + 1,
            sentTo := st.sentTo ++ out.map (·.dst) }

def netProcessed (c : Cfg) (net : Net) (m : Msg) : Net :=
  { net.setNode m.dst (nodeProcessed (net.node m.dst) (fanout c m.dst m.entries)) with
    inflight := net.inflight ++ fanout c m.dst m.entries
    signed := m.dst :: net.signed
    sends := net.sends + (fanout c m.dst m.entries).length }

inductive RecvCase (c : Cfg) (net : Net) (m : Msg) : Net × Outcome → Prop
  | absorbed : c.honest m.dst = false → RecvCase c net m (net, .absorbed)
  | droppedSeen : c.honest m.dst = true → (net.node m.dst).seen = true → RecvCase c net m (net, .droppedSeen)
  | skippedListed : c.honest m.dst = true → (net.node m.dst).seen = false → m.dst ∈ verified m.entries →
      RecvCase c net m (net.setNode m.dst { net.node m.dst with seen := true }, .skippedListed)
  | rejected : c.honest m.dst = true → (net.node m.dst).seen = false → m.dst ∉ verified m.entries →
      (m.authentic = true → (c.isTrx || c.accepts m.dst) = true → c.isTrx = false ∧ (net.node m.dst).admitted = true) →
      RecvCase c net m (net.setNode m.dst { net.node m.dst with seen := false, calls := (net.node m.dst).calls + 1 }, .rejected)
  | processed : c.honest m.dst = true → (net.node m.dst).seen = false → m.dst ∉ verified m.entries →
      m.authentic = true → (c.isTrx || c.accepts m.dst) = true → (c.isTrx = false → (net.node m.dst).admitted = false) →
      RecvCase c net m (netProcessed c net m, .processed)

theorem receive_cases (c : Cfg) (net : Net) (m : Msg) : RecvCase c net m (receive c net m) := by
  unfold receive
  dsimp only
  cases hh : c.honest m.dst with
  | false => exact .absorbed hh
  | true =>
  cases hs : (net.node m.dst).seen with
  | true => exact .droppedSeen hh hs
  | false =>
  cases hl : (verified m.entries).contains m.dst with
  | true => exact .skippedListed hh hs (List.contains_iff_mem.mp hl)
  | false =>
  have hl' : m.dst ∉ verified m.entries := fun h => by rw [List.contains_iff_mem.mpr h] at hl; cases hl
  cases hr : (!(m.authentic && (c.isTrx || c.accepts m.dst)) || !c.isTrx && (net.node m.dst).admitted) with
  | true =>
    refine .rejected hh hs hl' fun ha hacc => ?_
    simpa [ha, hacc] using hr
  | false =>
    simp only [Bool.or_eq_false_iff, Bool.not_eq_false', Bool.and_eq_true, Bool.and_eq_false_imp, Bool.not_eq_true'] at hr
    exact .processed hh hs hl' hr.1.1 hr.1.2 hr.2

theorem netProcessed_admitted (c : Cfg) (net : Net) (m : Msg) : ((netProcessed c net m).node m.dst).admitted = true :=
  congrArg NodeSt.admitted (node_setNode_self ..)

theorem deliver_none {c : Cfg} {net : Net} {k : Nat} (hk : net.inflight[k]? = none) : deliver c net k = (net, .absorbed) := by
  simp only [deliver, hk]

theorem deliver_some {c : Cfg} {net : Net} {k : Nat} {m : Msg} (hk : net.inflight[k]? = some m) :
    deliver c net k = receive c { net with inflight := net.inflight.eraseIdx k } m := by
  simp only [deliver, hk]

theorem duplicate_cases (net : Net) (k : Nat) :
    duplicate net k = net ∨ ∃ m ∈ net.inflight, duplicate net k = { net with inflight := net.inflight ++ [m] } := by
  fun_cases duplicate net k with
  | case1 => exact .inl rfl
  | case2 m hk => exact .inr ⟨m, List.mem_of_getElem? hk, rfl⟩

theorem inject_cases (c : Cfg) (net : Net) (m : Msg) :
    inject c net m = net ∨
    (∀ e ∈ m.entries, entryAllowed c net e = true) ∧ inject c net m = { net with inflight := net.inflight ++ [m] } := by
  fun_cases inject c net m with
  | case1 hall => exact .inr ⟨List.all_eq_true.mp hall, rfl⟩
  | case2 => exact .inl rfl

variable {c : Cfg} {o i : Node} {net : Net}

/-- A node's own counters, `o` being the origin. The origin ran the loop once without remembering the hash;
apart from that a node forwards only when it sees the item for the first time, and a vertex only when it
admits it. -/
structure NodeInv (c : Cfg) (o i : Node) (st : NodeSt) : Prop where
  origin : i = o → st.admitted = true
  fwd : st.forwards ≤ (if i = o then 1 else 0) + (if st.seen then 1 else 0)
  fwdVertex : c.isTrx = false → st.forwards ≤ (if st.admitted then 1 else 0)
  sent : st.sentTo.length ≤ st.forwards * (c.peers i).length

theorem NodeInv.seen {st : NodeSt} (h : NodeInv c o i st) {b : Bool} (n : Nat)
    (hb : st.seen = true → b = true) : NodeInv c o i { st with seen := b, calls := n } := by
  refine ⟨h.origin, ?_, h.fwdVertex, h.sent⟩
  have := h.fwd
  cases hs : st.seen with
  | true => rw [hs] at this; rw [hb hs]; exact this
  | false => rw [hs] at this; exact Nat.le_trans this (Nat.le_add_right _ _)

theorem NodeInv.admitted {st : NodeSt} (h : NodeInv c o i st) :
    NodeInv c o i { st with admitted := true } :=
  ⟨fun _ => rfl, h.fwd, fun hv => Nat.le_trans (h.fwdVertex hv) (ite_le_one _), h.sent⟩

theorem NodeInv.processed {st : NodeSt} (h : NodeInv c o i st) (hs : st.seen = false)
    (hadm : c.isTrx = false → st.admitted = false) (es : List Entry) :
    NodeInv c o i (nodeProcessed st (fanout c i es)) := by
  refine ⟨fun _ => rfl, ?_, fun hv => ?_, ?_⟩
  · have := h.fwd
    rw [hs] at this
    exact Nat.succ_le_succ this
  · have := h.fwdVertex hv
    rw [hadm hv] at this
    exact Nat.succ_le_succ this
  · show (st.sentTo ++ (fanout c i es).map Msg.dst).length ≤ (st.forwards + 1) * (c.peers i).length
    rw [List.length_append, List.length_map, Nat.add_mul, Nat.one_mul]
    exact Nat.add_le_add h.sent (fanout_length_le c i es)

/-- Every node's counters are in order, only nodes that hold the item have signed, and (unforgeability carried along)
an honest node listed with a verifying entry in a message on the wire has signed. -/
structure Inv (c : Cfg) (o : Node) (net : Net) : Prop where
  node : ∀ i, NodeInv c o i (net.node i)
  signedAdmitted : ∀ i ∈ net.signed, (net.node i).admitted = true
  listedSigned : ∀ m ∈ net.inflight, ∀ a ∈ verified m.entries, c.honest a = true → a ∈ net.signed

theorem Inv.setNode (h : Inv c o net) {s : NodeSt} (hs : NodeInv c o i s)
    (hadm : (net.node i).admitted = true → s.admitted = true) : Inv c o (net.setNode i s) :=
  ⟨forall_setNode (fun j _ => h.node j) hs,
   fun j hj => admitted_setNode hadm j (h.signedAdmitted j hj),
   h.listedSigned⟩

theorem Inv.wire (h : Inv c o net) {fl : List Msg} {n : Nat}
    (hfl : ∀ m ∈ fl, m ∈ net.inflight) : Inv c o { net with inflight := fl, sends := n } :=
  ⟨h.node, h.signedAdmitted, fun m hm => h.listedSigned m (hfl m hm)⟩

theorem Inv.send (h : Inv c o net) {m : Msg} (hm : ∀ a ∈ verified m.entries, c.honest a = true → a ∈ net.signed) :
    Inv c o { net with inflight := net.inflight ++ [m] } := by
  refine ⟨h.node, h.signedAdmitted, fun m' hm' => ?_⟩
  rcases List.mem_append.mp hm' with h1 | h1
  · exact h.listedSigned m' h1
  · rw [List.mem_singleton.mp h1]; exact hm

theorem Inv.forward (h : Inv c o net) {es : List Entry} {n : Nat}
    (hi : (net.node i).admitted = true) (hes : ∀ a ∈ verified es, c.honest a = true → a ∈ net.signed) :
    Inv c o { net with inflight := net.inflight ++ fanout c i es, signed := i :: net.signed, sends := n } := by
  refine ⟨h.node, fun j hj => ?_, fun m hm a ha hon => ?_⟩
  · rcases List.mem_cons.mp hj with rfl | hj
    · exact hi
    · exact h.signedAdmitted j hj
  · rcases List.mem_append.mp hm with hm | hm
    · exact List.mem_cons_of_mem _ (h.listedSigned m hm a ha hon)
    · rw [fanout_eq_fanoutAt] at hm
      rw [entries_of_mem_fanoutAt hm, mem_verified_forwardEntries] at ha
      rcases ha with ha | rfl
      · exact List.mem_cons_of_mem _ (hes a ha hon)
      · exact List.mem_cons_self

theorem inv_originate (c : Cfg) (o : Node) : Inv c o (originate c init o) := by
  have hother : ∀ j, j ≠ o → NodeInv c o j (init.node j) := fun j hj =>
    { origin := fun e => absurd e hj, fwd := Nat.zero_le _, fwdVertex := fun _ => Nat.zero_le _, sent := Nat.zero_le _ }
  -- the origin has run the forwarding loop once, over `fanout c o []`, without having seen the item
  have horigin : NodeInv c o o { admitted := true, forwards := 1, sentTo := (fanout c o []).map (·.dst) } :=
    { origin := fun _ => rfl
      fwd := by simp
      fwdVertex := fun _ => Nat.le_refl _
      sent := by simpa using fanout_length_le c o [] }
  exact Inv.forward (net := init.setNode o _)
    { node := forall_setNode hother horigin
      signedAdmitted := fun _ hi => nomatch hi
      listedSigned := fun _ hm => nomatch hm }
    (congrArg NodeSt.admitted (node_setNode_self ..)) fun _ ha => nomatch ha

/-- `net` is the state from which `m` has been taken off the wire: the invariant is assumed with `m` put back -/
theorem inv_receive (m : Msg) (h : Inv c o { net with inflight := m :: net.inflight }) :
    Inv c o (receive c net m).1 := by
  have h0 : Inv c o net := h.wire fun _ => List.mem_cons_of_mem _
  have hc := receive_cases c net m
  generalize receive c net m = r at hc
  cases hc with
  | absorbed _ => exact h0
  | droppedSeen _ _ => exact h0
  | skippedListed _ _ _ => exact h0.setNode ((h0.node _).seen _ fun _ => rfl) id
  | rejected _ hs _ _ => exact h0.setNode ((h0.node _).seen _ fun e => nomatch hs.symm.trans e) id
  | processed _ hs _ _ _ hadm =>
    exact (h0.setNode ((h0.node _).processed hs hadm m.entries) fun _ => rfl).forward
      (netProcessed_admitted c net m) (h.listedSigned m List.mem_cons_self)

theorem inv_step (s : Step) (h : Inv c o net) : Inv c o (step c net s) := by
  cases s with
  | deliver k =>
    cases hk : net.inflight[k]? with
    | none => rw [step, deliver_none hk]; exact h
    | some m =>
      rw [step, deliver_some hk]
      exact inv_receive m (h.wire fun x => (mem_cons_eraseIdx hk x).mp)
  | duplicate k =>
    rw [step]
    rcases duplicate_cases net k with e | ⟨m, hm, e⟩ <;> rw [e]
    · exact h
    · exact h.send (h.listedSigned m hm)
  | inject m =>
    rw [step]
    rcases inject_cases c net m with e | ⟨hall, e⟩ <;> rw [e]
    · exact h
    · -- unforgeability: an entry that verifies for an honest node passes `entryAllowed` only if that node signed
      refine h.send fun a ha hon => ?_
      obtain ⟨e, he, rfl, hv, hf⟩ := mem_verified.mp ha
      simpa [entryAllowed, hv, hf, hon] using hall e he
  | retryAdmit i => exact h.setNode (h.node i).admitted fun _ => rfl

theorem inv_run (ss : List Step) {net : Net} (h : Inv c o net) : Inv c o (run c net ss) := by
  induction ss generalizing net with
  | nil => exact h
  | cons s ss ih => exact ih (inv_step s h)

/-- Coverage invariant for executions in which every honest ledger admits the item on arrival
(no `retryAdmit` steps). -/
structure Cov (c : Cfg) (net : Net) : Prop where
  seenAdmitted : ∀ p, c.honest p = true → (net.node p).seen = true → (net.node p).admitted = true
  covered : ∀ i p, c.honest i = true → c.honest p = true → (net.node i).admitted = true → p ∈ c.peers i →
      (net.node p).admitted = true ∨ ∃ m ∈ net.inflight, m.dst = p ∧ m.authentic = true

theorem Cov.wire (h : Cov c net) {fl : List Msg} {sg : List Node} {n : Nat}
    (hfl : ∀ m ∈ net.inflight, m ∈ fl) : Cov c { net with inflight := fl, signed := sg, sends := n } :=
  ⟨h.seenAdmitted, fun i p hi hp ha hpe =>
    (h.covered i p hi hp ha hpe).imp_right fun ⟨m, hm, hd⟩ => ⟨m, hfl m hm, hd⟩⟩

theorem Cov.consume {m : Msg} (h : Cov c { net with inflight := m :: net.inflight })
    (hdst : c.honest m.dst = true → m.authentic = true → (net.node m.dst).admitted = true) : Cov c net := by
  refine ⟨h.seenAdmitted, fun i p hi hp ha hpe => ?_⟩
  rcases h.covered i p hi hp ha hpe with h1 | ⟨m', hm', hd, hau⟩
  · exact .inl h1
  · rcases List.mem_cons.mp hm' with rfl | hm'
    · exact .inl (hd ▸ hdst (hd ▸ hp) hau)
    · exact .inr ⟨m', hm', hd, hau⟩

theorem Cov.setNode (h : Cov c net) {s : NodeSt}
    (hadm : (net.node i).admitted = true → s.admitted = true)
    (hseen : c.honest i = true → s.seen = true → s.admitted = true)
    (hpeers : c.honest i = true → s.admitted = true → ∀ p ∈ c.peers i, c.honest p = true →
      p = i ∨ (net.node p).admitted = true ∨ ∃ m ∈ net.inflight, m.dst = p ∧ m.authentic = true) :
    Cov c (net.setNode i s) := by
  refine ⟨forall_setNode (P := fun p s => c.honest p = true → s.seen = true → s.admitted = true)
    (fun p _ => h.seenAdmitted p) hseen, fun j p hj hp ha hpe => ?_⟩
  by_cases e : j = i
  · subst e
    rw [node_setNode_self] at ha
    rcases hpeers hj ha p hpe hp with rfl | h1 | h2
    · exact .inl ((node_setNode_self ..).symm ▸ ha)
    · exact .inl (admitted_setNode hadm p h1)
    · exact .inr h2
  · rw [node_setNode_other _ _ _ _ e] at ha
    exact (h.covered j p hj hp ha hpe).imp_left (admitted_setNode hadm p)

theorem Cov.forward (h : Cov c net) {s : NodeSt} {es : List Entry} {sg : List Node} {n : Nat}
    (hs : s.admitted = true) (hes : ∀ a ∈ verified es, c.honest a = true → (net.node a).admitted = true) :
    Cov c { net.setNode i s with inflight := net.inflight ++ fanout c i es, signed := sg, sends := n } := by
  refine (h.wire (fl := net.inflight ++ fanout c i es) fun _ => List.mem_append_left _).setNode (fun _ => hs) (fun _ _ => hs)
    fun _ _ p hpe hp => ?_
  rcases fanoutAt_covers i es hpe with (hv | rfl) | ⟨m, hm, hd⟩
  · exact .inr (.inl (hes p hv hp))
  · exact .inl rfl
  · exact .inr (.inr ⟨m, List.mem_append_right _ (fanout_eq_fanoutAt c i es ▸ hm), hd⟩)

theorem cov_originate (c : Cfg) (o : Node) : Cov c (originate c init o) :=
  -- in `init` no node has seen or holds the item
  Cov.forward { seenAdmitted := fun _ _ e => Bool.noConfusion e, covered := fun _ _ _ _ e => Bool.noConfusion e } rfl
    fun _ ha => nomatch ha

theorem cov_receive (m : Msg) (hinv : Inv c o { net with inflight := m :: net.inflight })
    (hacc : ∀ p, c.honest p = true → (c.isTrx || c.accepts p) = true)
    (h : Cov c { net with inflight := m :: net.inflight }) : Cov c (receive c net m).1 := by
  have hlisted : ∀ a ∈ verified m.entries, c.honest a = true → (net.node a).admitted = true :=
    fun a ha hon => hinv.signedAdmitted a (hinv.listedSigned m List.mem_cons_self a ha hon)
  have hc := receive_cases c net m
  generalize receive c net m = r at hc
  cases hc with
  | absorbed hd => exact h.consume fun hh => nomatch hd.symm.trans hh
  | droppedSeen hd hs => exact h.consume fun _ _ => h.seenAdmitted _ hd hs
  | skippedListed hd _ hl =>
    have h' := h.consume fun _ _ => hlisted _ hl hd
    exact h'.setNode id (fun _ _ => hlisted _ hl hd) fun hi ha p hpe hp => .inr (h'.covered _ p hi hp ha hpe)
  | rejected hd _ _ hr =>
    have h' := h.consume fun _ hau => (hr hau (hacc _ hd)).2
    exact h'.setNode id (fun _ e => Bool.noConfusion e) fun hi ha p hpe hp => .inr (h'.covered _ p hi hp ha hpe)
  | processed _ _ _ _ _ _ =>
    -- `m` is dropped only after its receiver has taken the item
    exact Cov.consume (m := m) (h.forward rfl hlisted) fun _ _ => netProcessed_admitted c net m

/-- gossip-only steps: deliveries in any order, duplicated messages, adversarial injections -/
def Step.gossipOnly : Step → Bool
  | .retryAdmit _ => false
  | _ => true

theorem cov_step (s : Step) (hs : s.gossipOnly = true) (hinv : Inv c o net)
    (hacc : ∀ p, c.honest p = true → (c.isTrx || c.accepts p) = true) (h : Cov c net) : Cov c (step c net s) := by
  cases s with
  | deliver k =>
    cases hk : net.inflight[k]? with
    | none => rw [step, deliver_none hk]; exact h
    | some m =>
      rw [step, deliver_some hk]
      exact cov_receive m (hinv.wire fun x => (mem_cons_eraseIdx hk x).mp) hacc (h.wire fun x => (mem_cons_eraseIdx hk x).mpr)
  | duplicate k =>
    rw [step]
    rcases duplicate_cases net k with e | ⟨m, _, e⟩ <;> rw [e]
    · exact h
    · exact h.wire fun _ => List.mem_append_left _
  | inject m =>
    rw [step]
    rcases inject_cases c net m with e | ⟨_, e⟩ <;> rw [e]
    · exact h
    · exact h.wire fun _ => List.mem_append_left _
  | retryAdmit i => cases hs

theorem cov_run (ss : List Step) (hss : ∀ s ∈ ss, s.gossipOnly = true) {net : Net} (hinv : Inv c o net)
    (hacc : ∀ p, c.honest p = true → (c.isTrx || c.accepts p) = true) (h : Cov c net) : Cov c (run c net ss) := by
  induction ss generalizing net with
  | nil => exact h
  | cons s ss ih =>
    exact ih (fun s' hs' => hss s' (List.mem_cons_of_mem _ hs')) (inv_step s hinv)
      (cov_step s (hss s List.mem_cons_self) hinv hacc h)

/-- `p` can be reached from `o` through honest nodes only, along peer-table entries -/
inductive HonestPath (c : Cfg) (o : Node) : Node → Prop
  | origin : c.honest o = true → HonestPath c o o
  | hop {i p : Node} : HonestPath c o i → p ∈ c.peers i → c.honest p = true → HonestPath c o p

theorem HonestPath.honest {c : Cfg} {o p : Node} (h : HonestPath c o p) : c.honest p = true := by
  cases h with
  | origin h => exact h
  | hop _ _ h => exact h

theorem quiescent_covered (hinv : Inv c o net) (h : Cov c net) (hq : net.inflight = [])
    {p : Node} (hp : HonestPath c o p) : (net.node p).admitted = true := by
  induction hp with
  | origin _ => exact (hinv.node o).origin rfl
  | hop hi hpe hhon ih =>
    rcases h.covered _ _ hi.honest hhon ih hpe with h1 | ⟨m, hm, _⟩
    · exact h1
    · rw [hq] at hm; cases hm

def sumTo : Nat → (Nat → Nat) → Nat
  | 0, _ => 0
  | n + 1, f => sumTo n f + f n

/-- `f` and `g` differ at `i` only, where `g` is larger by at least `d`: so are the sums, provided `i` is among the
summands (`hd`: otherwise there is nothing to gain, and `d` must be 0). -/
theorem sumTo_point_le (n i : Nat) {f g : Nat → Nat} (h : ∀ j, j ≠ i → f j = g j) {d : Nat} (hi : f i + d ≤ g i)
    (hd : n ≤ i → d = 0) : sumTo n f + d ≤ sumTo n g := by
  induction n generalizing d with
  | zero => rw [hd (Nat.zero_le i)]; exact Nat.le_refl _
  | succ n ih =>
    simp only [sumTo]
    by_cases e : n = i
    · subst e
      have := ih (d := 0) (Nat.le_trans (Nat.le_add_right _ _) hi) fun _ => rfl
      rw [Nat.add_assoc]
      exact Nat.add_le_add this hi
    · rw [h n e, Nat.add_right_comm]
      exact Nat.add_le_add_right (ih hi fun hn => hd (Nat.lt_of_le_of_ne hn e)) _

/-- unseen nodes may still fan out: each accounts for its peer entries plus one -/
def weight (c : Cfg) (net : Net) (i : Node) : Nat := if (net.node i).seen then 0 else (c.peers i).length + 1

def potential (c : Cfg) (net : Net) : Nat := net.inflight.length + sumTo c.n (weight c net)

/-- Node `i` changes state and puts `d` messages on the wire (its fan-out), paying for them out of its weight; `hd`: a
node outside `0 … c.n - 1`, whose weight the potential does not count, sends nothing. -/
theorem potential_setNode_le (c : Cfg) (net : Net) (i : Node) (st : NodeSt) {fl : List Msg} {sg : List Node} {n d : Nat}
    (hfl : fl.length = net.inflight.length + d) (hd : c.n ≤ i → d = 0)
    (h : (if st.seen then 0 else (c.peers i).length + 1) + d ≤ weight c net i) :
    potential c { net.setNode i st with inflight := fl, signed := sg, sends := n } ≤ potential c net := by
  have : sumTo c.n (weight c (net.setNode i st)) + d ≤ sumTo c.n (weight c net) := by
    refine sumTo_point_le c.n i (fun j hj => ?_) ?_ hd
    · unfold weight; rw [node_setNode_other _ _ _ _ hj]
    · unfold weight at h ⊢; rw [node_setNode_self]; exact h
  show fl.length + sumTo c.n (weight c (net.setNode i st)) ≤ net.inflight.length + sumTo c.n (weight c net)
  rw [hfl, Nat.add_assoc, Nat.add_comm d]
  exact Nat.add_le_add_left this _

/-- a node that sees the item for the first time gives up `degree + 1`, which pays for its fan-out -/
theorem receive_potential_le (c : Cfg) (hwf : ∀ i, c.n ≤ i → c.peers i = []) (net : Net) (m : Msg) :
    potential c (receive c net m).1 ≤ potential c net := by
  have unseen : (net.node m.dst).seen = false → weight c net m.dst = (c.peers m.dst).length + 1 := by
    intro hs; unfold weight; rw [hs]; rfl
  have hc := receive_cases c net m
  generalize receive c net m = r at hc
  cases hc with
  | absorbed _ => exact Nat.le_refl _
  | droppedSeen _ _ => exact Nat.le_refl _
  | skippedListed _ _ _ => exact potential_setNode_le c net _ _ (d := 0) rfl (fun _ => rfl) (Nat.zero_le _)
  | rejected _ hs _ _ => exact potential_setNode_le c net _ _ (d := 0) rfl (fun _ => rfl) (Nat.le_of_eq (unseen hs).symm)
  | processed _ hs _ _ _ _ =>
    have hf := fanout_length_le c m.dst m.entries
    refine potential_setNode_le c net _ _ List.length_append (fun hn => ?_) ?_
    · rw [hwf _ hn] at hf; exact Nat.le_zero.mp hf
    · rw [unseen hs]; exact Nat.le_trans (Nat.le_of_eq (Nat.zero_add _)) (Nat.le_succ_of_le hf)

theorem deliver_decreases_potential (c : Cfg) (hwf : ∀ i, c.n ≤ i → c.peers i = []) (net : Net) (k : Nat)
    (hk : k < net.inflight.length) : potential c (deliver c net k).1 < potential c net := by
  rw [deliver_some (List.getElem?_eq_getElem hk)]
  refine Nat.lt_of_le_of_lt (receive_potential_le c hwf _ _) (Nat.add_lt_add_right ?_ _)
  show (net.inflight.eraseIdx k).length < net.inflight.length
  rw [List.length_eraseIdx, if_pos hk]
  exact Nat.sub_lt (Nat.zero_lt_of_lt hk) Nat.one_pos

end CModel.Gossip
