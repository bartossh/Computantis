import CModel.Tx
import Proofs.Base256
/-! C04 helper lemmas: layout injectivity of the two signed messages and the structure of verification. -/
namespace CModel.Tx
open Base256

theorem le64_eq (n : Nat) : le64 n = (toBE 8 n).reverse := (toBE_reverse 8 n).symm

theorem le64_length (n : Nat) : (le64 n).length = 8 := by simp [le64]

theorem le64_inj {a b : Nat} (ha : a < 18446744073709551616) (hb : b < 18446744073709551616)
    (h : le64 a = le64 b) : a = b := by
  rw [le64_eq, le64_eq, List.reverse_inj] at h
  exact toBE_inj ha hb h

theorem append_le64_inj {xs ys : Bytes} {a b : Nat} (ha : a < 18446744073709551616) (hb : b < 18446744073709551616)
    (e : xs ++ le64 a = ys ++ le64 b) : xs = ys ∧ a = b := by
  obtain ⟨e1, e2⟩ := List.append_inj' e (by rw [le64_length, le64_length])
  exact ⟨e1, le64_inj ha hb e2⟩

/-- What Go's types guarantee about a vertex: `[32]byte` hashes and 64-bit words. -/
structure VertexB.WF (v : VertexB) : Prop where
  thash : v.trx.hash.length = 32
  left : v.left.length = 32
  right : v.right.length = 32
  created : v.created < 18446744073709551616
  weight : v.weight < 18446744073709551616

structure TrxB.WF (t : TrxB) : Prop where
  created : t.created < 18446744073709551616
  cur : t.cur < 18446744073709551616
  supp : t.supp < 18446744073709551616

theorem vertexData_inj {v v' : VertexB} (h : v.WF) (h' : v'.WF) (e : vertexData v = vertexData v') :
    v.trx.hash = v'.trx.hash ∧ v.left = v'.left ∧ v.right = v'.right ∧ v.created = v'.created ∧ v.weight = v'.weight := by
  unfold vertexData at e
  obtain ⟨e1, ew⟩ := append_le64_inj h.weight h'.weight e
  obtain ⟨e2, ec⟩ := append_le64_inj h.created h'.created e1
  obtain ⟨e3, er⟩ := List.append_inj' e2 (by rw [h.right, h'.right])
  obtain ⟨eh, el⟩ := List.append_inj' e3 (by rw [h.left, h'.left])
  exact ⟨eh, el, er, ec, ew⟩

/-- The transaction message determines the three trailing words and the concatenation of the four
variable-width fields — but not where one variable-width field ends and the next begins. -/
theorem trxMessage_inj_words {t t' : TrxB} (h : t.WF) (h' : t'.WF) (e : trxMessage t = trxMessage t') :
    t.subject ++ t.data ++ t.issuer ++ t.receiver = t'.subject ++ t'.data ++ t'.issuer ++ t'.receiver ∧
    t.created = t'.created ∧ t.cur = t'.cur ∧ t.supp = t'.supp := by
  unfold trxMessage at e
  obtain ⟨e1, es⟩ := append_le64_inj h.supp h'.supp e
  obtain ⟨e2, ec⟩ := append_le64_inj h.cur h'.cur e1
  obtain ⟨e3, et⟩ := append_le64_inj h.created h'.created e2
  exact ⟨e3, et, ec, es⟩

theorem trxMessage_inj {t t' : TrxB} (h : t.WF) (h' : t'.WF) (e : trxMessage t = trxMessage t')
    (ls : t.subject.length = t'.subject.length) (ld : t.data.length = t'.data.length)
    (li : t.issuer.length = t'.issuer.length) :
    t.subject = t'.subject ∧ t.data = t'.data ∧ t.issuer = t'.issuer ∧ t.receiver = t'.receiver ∧
    t.created = t'.created ∧ t.cur = t'.cur ∧ t.supp = t'.supp := by
  obtain ⟨e0, ec, eu, es⟩ := trxMessage_inj_words h h' e
  -- nested to the right, the fields come off the front one by one, each by its own length
  rw [List.append_assoc, List.append_assoc, List.append_assoc, List.append_assoc] at e0
  obtain ⟨es', e1⟩ := List.append_inj e0 ls
  obtain ⟨ed, e2⟩ := List.append_inj e1 ld
  obtain ⟨ei, er⟩ := List.append_inj e2 li
  exact ⟨es', ed, ei, er, ec, eu, es⟩

/-- wallet.Helper.Verify, characterised: everything C04 and C16 say about signatures comes from this. -/
theorem verifyMsg_iff {o : Ops} {msg : Bytes} {sig : Sig} {hash addr : Bytes} :
    verifyMsg o msg sig hash addr = true ↔
      o.H msg = hash ∧ ∃ k, o.addrKey addr = some k ∧ k.length = 32 ∧ sig = .honest k hash := by
  unfold verifyMsg
  cases o.addrKey addr with
  | none => simp
  | some k => cases sig <;> simp [sigValid]

theorem verifyMsg_honest {o : Ops} {msg hash addr k : Bytes} (hh : o.H msg = hash) (hk : o.addrKey addr = some k)
    (hl : k.length = 32) : verifyMsg o msg (.honest k hash) hash addr = true :=
  verifyMsg_iff.mpr ⟨hh, k, hk, hl, rfl⟩

theorem verifyMsg_same_sig {o : Ops} {m m' : Bytes} {s : Sig} {h h' a a' : Bytes}
    (hv : verifyMsg o m s h a = true) (hv' : verifyMsg o m' s h' a' = true) :
    h' = h ∧ o.addrKey a' = o.addrKey a ∧ o.H m = o.H m' := by
  obtain ⟨hH, k, hk, _, hs⟩ := verifyMsg_iff.mp hv
  obtain ⟨hH', k', hk', _, hs'⟩ := verifyMsg_iff.mp hv'
  rw [hs] at hs'
  injection hs' with ek eh
  exact ⟨eh.symm, by rw [hk, hk', ek], by rw [hH, hH', eh]⟩

theorem verifyIssuer_same_sig {o : Ops} {t t' : TrxB} (hv : verifyIssuer o t = true) (hv' : verifyIssuer o t' = true)
    (hsig : t'.isig = t.isig) :
    t'.hash = t.hash ∧ o.addrKey t'.issuer = o.addrKey t.issuer ∧ o.H (trxMessage t) = o.H (trxMessage t') := by
  unfold verifyIssuer at hv hv'
  rw [hsig] at hv'
  exact verifyMsg_same_sig hv hv'

theorem verifyVertex_iff {o : Ops} {v : VertexB} : verifyVertex o v = true ↔
    verifyIssuer o v.trx = true ∧
    (v.trx.rsig.isEmpty = false → verifyMsg o (trxMessage v.trx) v.trx.rsig v.trx.hash v.trx.receiver = true) ∧
    verifyMsg o (vertexData v) v.sig v.hash v.signer = true := by
  unfold verifyVertex verifyIssuerReceiver verifyIssuer
  cases v.trx.rsig.isEmpty <;> simp [and_assoc]

theorem ite_eq_iff_of_ne {α} {c : Prop} [Decidable c] {x r y : α} (hx : x ≠ y) :
    (if c then x else r) = y ↔ ¬c ∧ r = y := by
  split <;> simp [*]

theorem ingressGate_pass {o : Ops} {g : Bytes} {v : VertexB} : ingressGate o g v = .pass ↔
    v.trx.issuer ≠ v.signer ∧ ¬(v.trx.data = [] ∧ v.trx.cur = 0 ∧ v.trx.supp = 0) ∧ v.trx.supp < maxSupp ∧
    v.trx.issuer ≠ g ∧ verifyVertex o v = true := by
  -- each earlier branch ends in a constructor other than `.pass` (the `decide`), so `.pass` is reached iff every test fails
  simp (disch := decide) only [ingressGate, ite_eq_iff_of_ne]
  -- the failed `Bool` tests as propositions
  simp

end CModel.Tx
