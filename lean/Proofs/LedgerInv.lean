import Proofs.LedgerTr
/-! The invariants of the ledger, each preserved by every transition of `Tr`: the index invariant (C03), the sealing
rules (C10), canonical amounts (C05 ingress), verified live vertices (C09), the guards of parked vertices; their
bundle `LedgerInv`, and the genesis step. -/
namespace CModel.Book
open CModel

def allV (b : Book) : List Vertex := b.verts ++ b.cpVerts

theorem mem_allV {b : Book} {v : Vertex} : v ∈ allV b ↔ v ∈ b.verts ∨ v ∈ b.cpVerts := List.mem_append
theorem mem_allV_of_live {b : Book} {v : Vertex} (h : v ∈ b.verts) : v ∈ allV b := List.mem_append_left _ h
theorem mem_allV_of_cp {b : Book} {v : Vertex} (h : v ∈ b.cpVerts) : v ∈ allV b := List.mem_append_right _ h

/-- C03 as an invariant: over live DAG and storage together no vertex hash and no transaction hash occurs twice, and
the index is exactly the function from the transaction hashes held to the vertices holding them. -/
structure IndexInv (b : Book) : Prop where
  nodupV : ((allV b).map (·.hash)).Nodup
  nodupT : ((allV b).map (·.trx.hash)).Nodup
  nodupI : (b.index.map (·.1)).Nodup
  holders : ∀ v ∈ allV b, (v.trx.hash, v.hash) ∈ b.index
  noDangling : ∀ e ∈ b.index, ∃ v ∈ allV b, v.hash = e.2 ∧ v.trx.hash = e.1

theorem IndexInv.vertsNodup {b : Book} (h : IndexInv b) : (b.verts.map (·.hash)).Nodup :=
  (List.nodup_append.1 (List.map_append ▸ h.nodupV)).1
theorem IndexInv.cpVertsNodup {b : Book} (h : IndexInv b) : (b.cpVerts.map (·.hash)).Nodup :=
  (List.nodup_append.1 (List.map_append ▸ h.nodupV)).2.1
theorem IndexInv.disjoint {b : Book} (h : IndexInv b) {x y : Vertex} (hx : x ∈ b.verts) (hy : y ∈ b.cpVerts) :
    x.hash ≠ y.hash :=
  (List.nodup_append.1 (List.map_append ▸ h.nodupV)).2.2 _ (List.mem_map_of_mem hx) _ (List.mem_map_of_mem hy)

theorem readVertex_eq_find? (b : Book) (h : Hash) : b.readVertex h = (allV b).find? (·.hash == h) := by
  unfold Book.readVertex getVertex cpGetVertex allV
  rw [List.find?_append]
  cases b.verts.find? (·.hash == h) <;> rfl

theorem IndexInv.readVertex {b : Book} (h : IndexInv b) {v : Vertex} (hv : v ∈ allV b) : b.readVertex v.hash = some v :=
  (readVertex_eq_find? b v.hash).trans (find?_of_nodup_map h.nodupV hv)

theorem IndexInv.indexGet {b : Book} (h : IndexInv b) {v : Vertex} (hv : v ∈ allV b) :
    b.indexGet v.trx.hash = some v.hash := by
  unfold Book.indexGet
  rw [find?_of_nodup_map (f := (·.1)) h.nodupI (h.holders v hv)]; rfl

theorem IndexInv.readTrxByHash {b : Book} (h : IndexInv b) {v : Vertex} (hv : v ∈ allV b) :
    b.readTrxByHash v.trx.hash = some v.trx := by
  rw [Book.readTrxByHash, h.indexGet hv]
  simp only [h.readVertex hv, Option.map_some]

theorem IndexInv.of_perm {b b' : Book} (h : IndexInv b) (hp : (allV b').Perm (allV b)) (hi : b'.index = b.index) :
    IndexInv b' where
  nodupV := (hp.map _).nodup_iff.2 h.nodupV
  nodupT := (hp.map _).nodup_iff.2 h.nodupT
  nodupI := hi ▸ h.nodupI
  holders := fun v hv => hi ▸ h.holders v (hp.mem_iff.1 hv)
  noDangling := fun e he => by
    obtain ⟨v, hv, hh⟩ := h.noDangling e (hi ▸ he)
    exact ⟨v, hp.mem_iff.2 hv, hh⟩

theorem IndexInv.drop {b : Book} (h : IndexInv b) (v : Vertex) (hv : v ∈ b.verts) :
    IndexInv ((b.deleteVertex v.hash).indexRemove v.trx.hash) := by
  have hvAll : v ∈ allV b := mem_allV_of_live hv
  have hsub : (allV ((b.deleteVertex v.hash).indexRemove v.trx.hash)).Sublist (allV b) :=
    List.Sublist.append List.filter_sublist (List.Sublist.refl _)
  -- what stays held is everything but `v` itself (hashes are unique)
  have hmem : ∀ x, x ∈ allV ((b.deleteVertex v.hash).indexRemove v.trx.hash) ↔ x ∈ allV b ∧ x ≠ v := by
    intro x
    simp only [allV, indexRemove_verts, deleteVertex_verts, indexRemove_cpVerts, deleteVertex_cpVerts,
      List.mem_append, List.mem_filter, bne_iff_ne, ne_eq]
    constructor
    · rintro (⟨hx, hne⟩ | hx)
      · exact ⟨.inl hx, fun e => hne (e ▸ rfl)⟩
      · exact ⟨.inr hx, fun e => h.disjoint hv (e ▸ hx) rfl⟩
    · rintro ⟨hx | hx, hne⟩
      · exact .inl ⟨hx, fun e => hne (nodup_map_inj h.nodupV (mem_allV_of_live hx) hvAll e)⟩
      · exact .inr hx
  refine ⟨(hsub.map _).nodup h.nodupV, (hsub.map _).nodup h.nodupT,
    (List.filter_sublist.map _).nodup h.nodupI, fun x hx => ?_, fun e he => ?_⟩
  · obtain ⟨hx, hne⟩ := (hmem x).1 hx
    exact List.mem_filter.2 ⟨h.holders x hx, by simpa using fun e => hne (nodup_map_inj h.nodupT hx hvAll e)⟩
  · obtain ⟨he, hne⟩ := List.mem_filter.1 he
    obtain ⟨x, hx, h1, h2⟩ := h.noDangling e he
    exact ⟨x, (hmem x).2 ⟨hx, fun e' => by simp [← h2, e'] at hne⟩, h1, h2⟩

theorem IndexInv.insert {b : Book} (h : IndexInv b) (v : Vertex) (es : List (Hash × Hash)) (ok : InsertOK b v) :
    IndexInv { b with index := b.index ++ [(v.trx.hash, v.hash)], verts := b.verts ++ [v], edges := b.edges ++ es } := by
  have hp : (allV { b with index := b.index ++ [(v.trx.hash, v.hash)], verts := b.verts ++ [v], edges := b.edges ++ es }).Perm
      (v :: allV b) := by
    simp only [allV, List.append_assoc, List.singleton_append]; exact List.perm_middle
  have hfI : ∀ e ∈ b.index, e.1 ≠ v.trx.hash := indexHas_eq_false.1 ok.freshT
  have hfV : ∀ x ∈ allV b, x.hash ≠ v.hash := fun x hx =>
    (mem_allV.1 hx).elim (hasVertex_eq_false.1 ok.freshV x) (cpHasVertex_eq_false.1 ok.freshCp x)
  have hfT : ∀ x ∈ allV b, x.trx.hash ≠ v.trx.hash := fun x hx => hfI _ (h.holders x hx)
  refine ⟨(hp.map _).nodup_iff.2 (nodup_map_cons h.nodupV hfV), (hp.map _).nodup_iff.2 (nodup_map_cons h.nodupT hfT),
    nodup_map_concat h.nodupI hfI, fun x hx => ?_, fun e he => ?_⟩
  · rcases List.mem_cons.1 (hp.mem_iff.1 hx) with rfl | hx
    · exact List.mem_append_right _ List.mem_cons_self
    · exact List.mem_append_left _ (h.holders x hx)
  · rcases List.mem_append.1 he with he | he
    · obtain ⟨x, hx, hh⟩ := h.noDangling e he
      exact ⟨x, hp.mem_iff.2 (List.mem_cons_of_mem _ hx), hh⟩
    · rw [List.mem_singleton.1 he]
      exact ⟨v, hp.mem_iff.2 List.mem_cons_self, rfl, rfl⟩

theorem IndexInv.tr {b b' : Book} (h : IndexInv b) (t : Tr b b') : IndexInv b' := by
  cases t with
  | misc c => exact h.of_perm (by rw [allV, c.verts, c.frame.cpVerts]; exact .refl _) c.index
  | drop v hv => exact h.drop v hv
  | insert v es ok hes hcomp hzero => exact h.insert v es ok
  | unlink x hx => exact h.of_perm (.refl _) rfl

theorem IndexInv.steps {b b' : Book} (h : IndexInv b) (s : Steps b b') : IndexInv b' := s.lift IndexInv.tr h

/-- no parents: the shape `createGenesis` demands of its vertex, and the only vertices the sealing rules exempt -/
def isGenesisV (v : Vertex) : Prop := v.left = 0 ∧ v.right = 0

/-- Golden / silver rule for one vertex relative to the genesis address `g`. -/
def Sealed (g : Addr) (v : Vertex) : Prop :=
  v.trx.issuer ≠ v.signer ∧ v.trx.issuer ≠ g ∧ v.trx.isEmpty = false

def SealInv (b : Book) : Prop := ∀ v ∈ allV b, isGenesisV v ∨ Sealed b.genesis v

/-- Only canonical amounts are ever held (C05 ingress). -/
def CanonInv (b : Book) : Prop := ∀ v ∈ allV b, v.trx.spice.canonB = true

/-- Every live vertex passed `verify` when it was admitted. -/
def VokInv (b : Book) : Prop := ∀ v ∈ b.verts, v.vok = true

theorem Tr.mem_allV {b b' : Book} (t : Tr b b') {x : Vertex} (hx : x ∈ allV b') : x ∈ allV b ∨ InsertOK b x := by
  rw [allV, t.frame.cpVerts] at hx
  rcases List.mem_append.1 hx with hx | hx
  · exact (t.mem_verts hx).imp_left mem_allV_of_live
  · exact .inl (mem_allV_of_cp hx)

theorem SealInv.tr {b b' : Book} (h : SealInv b) (t : Tr b b') : SealInv b' := fun v hv => by
  rw [t.frame.genesis]
  rcases t.mem_allV hv with hv | ok
  · exact h v hv
  · exact .inr ⟨ok.notOwn, ok.notGenesis, ok.notEmpty⟩

theorem SealInv.steps {b b' : Book} (h : SealInv b) (s : Steps b b') : SealInv b' := s.lift SealInv.tr h

theorem CanonInv.tr {b b' : Book} (h : CanonInv b) (t : Tr b b') : CanonInv b' := fun v hv =>
  (t.mem_allV hv).elim (h v) (·.canon)

theorem VokInv.tr {b b' : Book} (h : VokInv b) (t : Tr b b') : VokInv b' := fun v hv =>
  (t.mem_verts hv).elim (h v) (·.vok)

theorem VokInv.steps {b b' : Book} (h : VokInv b) (s : Steps b b') : VokInv b' := s.lift VokInv.tr h

/-- The orphan buffer only holds vertices that passed the guards of `AddLeaf`. -/
def ParkInv (b : Book) : Prop := ∀ p ∈ b.parked, AddGuards b p.1

theorem ParkInv.tr {b b' : Book} (h : ParkInv b) (t : Tr b b') : ParkInv b' := by
  have hl := t.frame.loaded
  cases t with
  | misc c => exact fun p hp => ((c.parked hp).elim (h p) id).of_loaded hl
  | _ => exact fun p hp => (h p hp).of_loaded hl

theorem ParkInv.sealingGuards {b : Book} (h : ParkInv b) {p : Vertex × Nat} (hp : p ∈ b.parked) :
    p.1.trx.issuer ≠ p.1.signer ∧ p.1.trx.isEmpty = false := ⟨(h p hp).notOwn, (h p hp).notEmpty⟩

structure LedgerInv (b : Book) : Prop where
  idx : IndexInv b
  sealing : SealInv b
  verified : VokInv b
  canon : CanonInv b
  cpCanon : ∀ e ∈ b.cpFunds, e.2.canonB = true
  parkOk : ParkInv b

theorem LedgerInv.init (self : Addr) : LedgerInv { self := self } where
  idx := ⟨List.nodup_nil, List.nodup_nil, List.nodup_nil, List.forall_mem_nil _, List.forall_mem_nil _⟩
  sealing := List.forall_mem_nil _
  verified := List.forall_mem_nil _
  canon := List.forall_mem_nil _
  cpCanon := List.forall_mem_nil _
  parkOk := List.forall_mem_nil _

theorem LedgerInv.tr {b b' : Book} (h : LedgerInv b) (t : Tr b b') : LedgerInv b' :=
  ⟨h.idx.tr t, h.sealing.tr t, h.verified.tr t, h.canon.tr t, t.frame.cpFunds ▸ h.cpCanon, h.parkOk.tr t⟩

theorem LedgerInv.steps {b b' : Book} (h : LedgerInv b) (s : Steps b b') : LedgerInv b' := s.lift LedgerInv.tr h

theorem steps_retryParked (b : Book) (hp : ParkInv b) : Steps b b.retryParked.1 := by
  rcases retryParked_cases b with ⟨_, e⟩ | ⟨v, rep, rest, hq, e⟩ <;> rw [e]
  · exact Steps.refl _
  · have hg : AddGuards b v := hp (v, rep) (hq ▸ List.mem_cons_self ..)
    have m : Tr b { b with parked := rest } :=
      Tr.misc ⟨rfl, rfl, rfl, rfl, rfl, rfl, rfl, rfl, fun p hp' => .inl (hq ▸ List.mem_cons_of_mem _ hp')⟩
    exact (Steps.single m).trans (steps_addLeafMemorized _ v rep hg)

theorem coreEq_addTrusted (b : Book) (a : Addr) : CoreEq b (b.addTrusted a) := by
  unfold addTrusted; split <;> exact CoreEq.refl b

theorem coreEq_removeTrusted (b : Book) (a : Addr) : CoreEq b (b.removeTrusted a) := CoreEq.refl b

/-- What `createGenesis` has established of the vertex it admits (the counterpart of `InsertOK`). -/
structure GenesisOK (b : Book) (v : Vertex) : Prop where
  noParents : isGenesisV v
  vok : v.vok = true
  notToSelf : v.trx.receiver ≠ v.trx.issuer
  canon : v.trx.spice.canonB = true
  freshT : b.indexHas v.trx.hash = false
  freshV : b.hasVertex v.hash = false

theorem createGenesis_ok {b b' : Book} {recv : Addr} {spc : Melange} {v v' : Vertex}
    (h : b.createGenesis recv spc v = (b', .ok v')) :
    v' = v ∧ GenesisOK b v ∧
    ∃ w t, b' = { b with index := b.index ++ [(v.trx.hash, v.hash)], verts := b.verts ++ [v], weight := w,
                         throughput := t, loaded := true, genesis := b.self } := by
  revert h
  fun_cases createGenesis b recv spc v with
  | case1 | case2 | case3 | case4 | case5 => exact nofun  -- the five refusals
  | case6 hrecv hcan hchk b1 hidx b2 hadd b3 =>
    -- the vertex handed in is the one the request describes
    simp only [Bool.not_eq_true, Bool.or_eq_false_iff, bne_eq_false_iff_eq, Bool.not_eq_eq_eq_not, Bool.not_false] at hchk
    obtain ⟨⟨⟨⟨⟨⟨⟨spice, _⟩, issuer⟩, receiver⟩, left⟩, right⟩, _⟩, vok⟩ := hchk
    obtain ⟨freshT, rfl⟩ := indexSave_some hidx
    obtain ⟨freshV, rfl⟩ := addVertex_some hadd
    obtain ⟨w, t, hb3⟩ : ∃ w t, b3 = _ := updateWT_eq ..
    rintro ⟨⟩
    exact ⟨rfl, ⟨⟨left, right⟩, vok, by rw [receiver, issuer]; simpa using hrecv, by rw [spice]; simpa using hcan,
      freshT, freshV⟩, w, t, by rw [hb3]⟩

theorem LedgerInv.genesis {b b' : Book} {recv : Addr} {spc : Melange} {v v' : Vertex}
    (hv : b.verts = []) (hc : b.cpVerts = []) (hi : b.index = []) (hpk : b.parked = []) (hcf : b.cpFunds = [])
    (h : b.createGenesis recv spc v = (b', .ok v')) : LedgerInv b' := by
  obtain ⟨_, ok, w, t, hb'⟩ := createGenesis_ok h
  -- the new book holds `v`, its index entry, and nothing else
  have hall : allV b' = [v] := by rw [hb']; show (b.verts ++ [v]) ++ b.cpVerts = [v]; rw [hv, hc]; rfl
  have hidx : b'.index = [(v.trx.hash, v.hash)] := by rw [hb']; show b.index ++ _ = _; rw [hi]; rfl
  have only : ∀ x ∈ allV b', x = v := fun x hx => List.mem_singleton.1 (hall ▸ hx)
  exact
    { idx :=
        { nodupV := by rw [hall]; exact List.pairwise_singleton ..
          nodupT := by rw [hall]; exact List.pairwise_singleton ..
          nodupI := by rw [hidx]; exact List.pairwise_singleton ..
          holders := fun x hx => by rw [only x hx, hidx]; exact List.mem_singleton_self _
          noDangling := fun e he => by
            rw [hidx] at he; rw [List.mem_singleton.1 he, hall]
            exact ⟨v, List.mem_singleton_self _, rfl, rfl⟩ }
      sealing := fun x hx => .inl (only x hx ▸ ok.noParents)
      verified := fun x hx => only x (mem_allV_of_live hx) ▸ ok.vok
      canon := fun x hx => only x hx ▸ ok.canon
      cpCanon := by rw [hb']; show ∀ e ∈ b.cpFunds, _; rw [hcf]; exact List.forall_mem_nil _
      parkOk := by rw [hb']; show ∀ p ∈ b.parked, _; rw [hpk]; exact List.forall_mem_nil _ }

end CModel.Book
