/-! Positional notation, most significant digit first: `ofDigits b` reads digits in base `b` (`Crypto.digitsVal` is
`ofDigits 58`), `ofBE` reads bytes (`Msgpack.fromBe`; it also reads back `Crypto.natToBytesBE`, the byte step of the
base58 decoder), `toBE k` writes the `k` low bytes (`Msgpack.be16/32/64`; `Tx.le64` is `toBE 8` reversed). -/
namespace CModel.Base256

def ofDigits (b : Nat) (ds : List Nat) : Nat := ds.foldl (fun acc d => acc * b + d) 0

theorem ofDigits_snoc (b : Nat) (ds : List Nat) (d : Nat) : ofDigits b (ds ++ [d]) = ofDigits b ds * b + d := by
  simp [ofDigits]

theorem ofDigits_zeros_append (b z : Nat) (ds : List Nat) : ofDigits b (List.replicate z 0 ++ ds) = ofDigits b ds := by
  induction z with
  | zero => rfl
  | succ z ih => simpa [ofDigits, List.replicate_succ] using ih

theorem foldl_digits_ge {b : Nat} (hb : 0 < b) (ds : List Nat) (a : Nat) : a ≤ ds.foldl (fun acc d => acc * b + d) a := by
  induction ds generalizing a with
  | nil => exact Nat.le_refl a
  | cons d ds ih => exact Nat.le_trans (Nat.le_trans (Nat.le_mul_of_pos_right a hb) (Nat.le_add_right _ d)) (ih _)

theorem le_ofDigits_cons {b : Nat} (hb : 0 < b) (d : Nat) (ds : List Nat) : d ≤ ofDigits b (d :: ds) := by
  rw [ofDigits, List.foldl_cons, Nat.zero_mul, Nat.zero_add]
  exact foldl_digits_ge hb ds d

def ofBE (bs : List UInt8) : Nat := ofDigits 256 (bs.map (·.toNat))

theorem ofBE_snoc (bs : List UInt8) (b : UInt8) : ofBE (bs ++ [b]) = ofBE bs * 256 + b.toNat := by
  rw [ofBE, List.map_append, List.map_singleton, ofDigits_snoc, ← ofBE]

theorem ofBE_zeros_append (z : Nat) (bs : List UInt8) : ofBE (List.replicate z 0 ++ bs) = ofBE bs := by
  rw [ofBE, List.map_append, List.map_replicate, UInt8.toNat_zero, ofDigits_zeros_append, ← ofBE]

/-- The `k` low base-256 digits of `n`, most significant first. -/
def toBE : Nat → Nat → List UInt8
  | 0, _ => []
  | k + 1, n => toBE k (n / 256) ++ [UInt8.ofNat (n % 256)]

theorem toBE_add (j k n : Nat) : toBE (j + k) n = toBE j (n / 256 ^ k) ++ toBE k n := by
  induction k generalizing n with
  | zero => rw [Nat.pow_zero, Nat.div_one]; exact (List.append_nil _).symm
  | succ k ih =>
    rw [← Nat.add_assoc, toBE, toBE, ih, List.append_assoc, Nat.div_div_eq_div_mul, Nat.pow_succ, Nat.mul_comm]

theorem toBE_reverse (k n : Nat) :
    (toBE k n).reverse = (List.range k).map fun i => UInt8.ofNat (n >>> (8 * i) % 256) := by
  induction k with
  | zero => rfl
  | succ k ih =>
    rw [List.range_succ, List.map_append, ← ih, Nat.add_comm k 1, toBE_add 1 k, List.reverse_append,
      List.map_singleton, Nat.shiftRight_eq_div_pow, Nat.pow_mul]
    rfl

theorem ofBE_toBE (k n : Nat) : ofBE (toBE k n) = n % 256 ^ k := by
  induction k generalizing n with
  | zero => exact (Nat.mod_one n).symm
  | succ k ih =>
    rw [toBE, ofBE_snoc, ih, UInt8.toNat_ofNat', Nat.mod_mod, Nat.pow_succ, Nat.mul_comm (256 ^ k), Nat.mod_mul,
      Nat.add_comm, Nat.mul_comm]

theorem toBE_inj {k a b : Nat} (ha : a < 256 ^ k) (hb : b < 256 ^ k) (h : toBE k a = toBE k b) : a = b := by
  have := congrArg ofBE h
  rwa [ofBE_toBE, ofBE_toBE, Nat.mod_eq_of_lt ha, Nat.mod_eq_of_lt hb] at this

end CModel.Base256
