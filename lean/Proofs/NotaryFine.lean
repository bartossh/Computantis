import Proofs.NotaryProofs
/-! C16: the notary with Confirm and Reject split into their two atomic halves (the awaiting-cache removal
under the cache mutex, the sealing under the ledger lock), so that concurrent duplicate calls interleave.
Every interleaving of whole calls and half calls keeps the invariant: a contract is sealed only after the
receiver acted, and at most once. -/
namespace CModel.Notary
open CModel.Tx

/-- notary state plus the calls that have taken their transaction off the awaiting list and have not
reached the ledger yet -/
structure FSt where
  s : St
  pending : List (TrxB × Bool)     -- (transaction to seal, came from Reject?)

inductive FOp
  | whole (op : Op)                                  -- any call executed without interruption
  | confirmRemove (t : TrxB)                         -- Confirm: verify + RemoveAwaitedTransaction
  | rejectRemove (r : SignedHash)                    -- Reject: verify + RemoveAwaitedTransaction
  | sealAt (i : Nat) (ledgerOk : Bool)                 -- the i-th pending call reaches CreateLeaf

def fstep (c : Cfg) (f : FSt) : FOp → FSt
  | .whole op => { f with s := (step c f.s op).1 }
  | .confirmRemove t =>
    if !verifyIssuerReceiver c.o t then f else
    match removeAwaiting f.s t.hash t.receiver with
    | .removed _ s1 => { s := s1, pending := f.pending ++ [(t, false)] }
    | _ => f
  | .rejectRemove r =>
    if !verifySH c r then f else
    match removeAwaiting f.s r.data r.address with
    | .removed t s1 => { s := s1, pending := f.pending ++ [(t, true)] }
    | _ => f
  | .sealAt i lo =>
    match f.pending[i]? with
    | none => f
    | some (t, isRej) =>
      match (if isRej then sealRej f.s t lo else sealTrx f.s t lo) with
      | none => { f with pending := f.pending.eraseIdx i }
      | some s2 => { s := s2, pending := f.pending.eraseIdx i }

def frun (c : Cfg) (f : FSt) : List FOp → FSt
  | [] => f
  | op :: ops => frun c (fstep c f op) ops

/-- The history of whole and half calls as a history of whole calls, as far as `Justified` reads it (it only asks which
`reject` requests occur): a first half stands for its call, with an arbitrary ledger flag, and `sealAt` for some call that
is not a `reject`. -/
def FOp.erase : FOp → Op
  | .whole op => op
  | .confirmRemove t => .confirm t false
  | .rejectRemove r => .reject r false
  | .sealAt _ _ => .expire

/-- `Inv` for the state, and every call between its halves is one the receiver authorised -/
structure FInv (c : Cfg) (base : List TrxB) (past : List FOp) (f : FSt) : Prop where
  inv : Inv c base (past.map FOp.erase) f.s
  pendingJustified : ∀ p ∈ f.pending, verifyIssuer c.o p.1 = true ∧ Justified c (past.map FOp.erase) p.1

theorem finv_start (c : Cfg) {base : List TrxB} (hb : (base.map (·.hash)).Nodup) : FInv c base [] ⟨{ sealed := base }, []⟩ where
  inv := inv_start c hb
  pendingJustified := fun _ => nofun

namespace FInv
variable {c : Cfg} {base : List TrxB} {past : List FOp} {f : FSt}

theorem mono (op : FOp) (h : FInv c base past f) : FInv c base (past ++ [op]) f := by
  constructor <;> rw [List.map_append]
  · exact h.inv.past_mono _
  · exact fun p hp => ⟨(h.pendingJustified p hp).1, (h.pendingJustified p hp).2.mono _⟩

theorem removed {hh a : Bytes} {t0 t : TrxB} {s1 : St} (h : FInv c base past f) (e : removeAwaiting f.s hh a = .removed t0 s1)
    (b : Bool) (hv : verifyIssuer c.o t = true) (hj : Justified c (past.map FOp.erase) t) :
    FInv c base past ⟨s1, f.pending ++ [(t, b)]⟩ := by
  refine ⟨h.inv.removed e, fun p hm => ?_⟩
  rcases List.mem_append.mp hm with hm | hm
  · exact h.pendingJustified p hm
  · cases List.mem_singleton.mp hm; exact ⟨hv, hj⟩

end FInv

theorem finv_step {c : Cfg} {base : List TrxB} {past : List FOp} {f : FSt} (op : FOp) (h : FInv c base past f) :
    FInv c base (past ++ [op]) (fstep c f op) := by
  have h' := h.mono op
  have hrest i := fun p hm => h'.pendingJustified p (List.mem_of_mem_eraseIdx (i := i) hm)
  fun_cases fstep c f op with
  | case1 o => -- `whole o`
    exact ⟨by rw [List.map_append]; exact inv_step o h.inv, h'.pendingJustified⟩
  | case2 | case4 | case5 | case7 | case8 => exact h' -- a refused first half, or no pending call number `i`
  | case3 t hv t0 s1 e => -- `confirmRemove t` takes `t0` off: `t` is now pending
    exact h'.removed e false (verifyIssuerReceiver_issuer (eq_true_of_not hv)) (.inl (eq_true_of_not hv))
  | case6 r hv t0 s1 e => -- `rejectRemove r` takes `t0` off: `t0` is now pending
    have r0 := removeAwaiting_removed e
    exact h'.removed e true (h.inv.awaitingVerified _ r0.mem).1
      (.inr ⟨r, false, List.mem_map_of_mem (f := FOp.erase) (List.mem_append_right _ (.head _)), r0.hash.symm, r0.receiver.symm,
        eq_true_of_not hv⟩)
  | case9 i lo t isRej hg hs => exact ⟨h'.inv, hrest i⟩ -- `sealAt i lo`, refused by the ledger
  | case10 i lo t isRej hg s2 hs => -- `sealAt i lo`, sealed
    obtain ⟨hv, hj⟩ := h'.pendingJustified _ (List.mem_of_getElem? hg)
    have hs : Sealed f.s t lo s2 := by
      cases isRej
      · exact sealTrx_some hs
      · exact sealRej_some hs
    exact ⟨h'.inv.sealed hs hv fun _ => hj, hrest i⟩

theorem finv_run {c : Cfg} {base : List TrxB} (ops : List FOp) {past : List FOp} {f : FSt} (h : FInv c base past f) :
    FInv c base (past ++ ops) (frun c f ops) := by
  induction ops generalizing past f with
  | nil => simpa [frun] using h
  | cons op ops ih =>
    have := ih (finv_step op h)
    simpa [frun, List.append_assoc] using this

theorem justified_erase {c : Cfg} {past : List FOp} {t : TrxB} (h : Justified c (past.map FOp.erase) t) :
    verifyIssuerReceiver c.o t = true ∨
    ∃ r, ((∃ lo, FOp.whole (.reject r lo) ∈ past) ∨ FOp.rejectRemove r ∈ past) ∧
      r.data = t.hash ∧ r.address = t.receiver ∧ verifySH c r = true := by
  rcases h with h | ⟨r, lo, hm, h⟩
  · exact Or.inl h
  · refine Or.inr ⟨r, ?_, h⟩
    obtain ⟨fo, hfo, he⟩ := List.mem_map.mp hm
    cases fo with
    | whole o => cases he; exact Or.inl ⟨lo, hfo⟩
    | rejectRemove r' => cases he; exact Or.inr hfo
    | confirmRemove t => cases he
    | sealAt i l => cases he

end CModel.Notary
