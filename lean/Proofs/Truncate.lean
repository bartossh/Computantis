import Proofs.LedgerInv
import Proofs.TruncFunds
/-! C07: structure of truncation — what moves, what stays, and that every ledger invariant survives. -/
namespace CModel.Book
open CModel CModel.Melange

theorem collectMoved_ok (b : Book) (hs : List Hash) (acc mv : List Vertex)
    (h : collectMoved b hs acc = .ok mv) :
    mv = acc ++ visited b hs ∧ (visited b hs).map (·.hash) = hs ∧
      (((b.cpVerts ++ acc).map (·.hash)).Nodup → ((b.cpVerts ++ mv).map (·.hash)).Nodup) := by
  fun_induction collectMoved b hs acc with
  | case1 acc => cases h; exact ⟨(List.append_nil _).symm, rfl, id⟩
  | case2 | case3 => cases h  -- a hash that is not live, or one already stored
  | case4 x xs acc v hv hfresh ih =>
    obtain ⟨e1, e2, e4⟩ := ih h
    have hx : visited b (x :: xs) = v :: visited b xs := List.filterMap_cons_some hv
    refine ⟨by rw [e1, hx, List.append_assoc]; rfl, by rw [hx, List.map_cons, e2, (getVertex_mem hv).2], fun hn => e4 ?_⟩
    -- `v` is new to storage and to what has been collected
    rw [← List.append_assoc]
    exact nodup_map_concat hn fun y hy e => hfresh (List.any_eq_true.2 ⟨y, hy, beq_iff_eq.2 e⟩)

theorem foldl_deleteVertex (hs : List Hash) (b : Book) :
    hs.foldl (fun b h => b.deleteVertex h) b =
      { b with verts := b.verts.filter (fun v => !hs.contains v.hash),
               edges := b.edges.filter (fun e => !hs.contains e.1 && !hs.contains e.2) } := by
  induction hs generalizing b with
  | nil => cases b; simp [List.filter_eq_self.2]
  | cons x xs ih =>
    rw [List.foldl_cons, ih]
    simp only [deleteVertex, List.filter_filter, List.contains_cons, bne]
    -- the two filters have been fused; what is left is Boolean algebra
    congr 2 <;> funext a
    · exact (by decide : ∀ p q : Bool, (!q && !p) = !(p || q)) _ _
    · exact (by decide : ∀ p q r s : Bool, (!r && !s && (!p && !q)) = (!(p || r) && !(q || s))) _ _ _ _

theorem truncateAt_ok {b : Book} {cut : Hash} (h : (b.truncateAt cut).2 = .ok ()) :
    (visited b (b.ancestors cut)).map (·.hash) = b.ancestors cut ∧
      (((b.cpVerts).map (·.hash)).Nodup → ((b.cpVerts ++ visited b (b.ancestors cut)).map (·.hash)).Nodup) ∧
      (b.truncateAt cut).1 =
        { b with cpFunds := newCpFunds b (visited b (b.ancestors cut)), cpVerts := b.cpVerts ++ visited b (b.ancestors cut),
                 verts := b.verts.filter (fun v => !(b.ancestors cut).contains v.hash),
                 edges := b.edges.filter (fun e => !(b.ancestors cut).contains e.1 && !(b.ancestors cut).contains e.2) } := by
  revert h
  fun_cases truncateAt b cut with
  | case1 | case2 => exact nofun  -- the two refusals
  | case3 _ mv hc =>
    obtain ⟨e1, e2, e4⟩ := collectMoved_ok b _ [] mv hc
    rw [List.nil_append] at e1; subst e1
    exact fun _ => ⟨e2, by simpa using e4, foldl_deleteVertex _ _⟩

theorem truncateAt_err {b : Book} {cut : Hash} {e : Err} (h : (b.truncateAt cut).2 = .error e) :
    (b.truncateAt cut).1 = b := by
  revert h
  fun_cases truncateAt b cut with
  | case1 | case2 => exact fun _ => rfl  -- the two refusals
  | case3 => exact nofun

/-- A truncation is refused with the book untouched, or moves `visited b (b.ancestors cut)`, the strict ancestors of the
cut (all live), to storage. -/
theorem truncateAt_cases (b : Book) (cut : Hash) :
    (b.truncateAt cut).1 = b ∨
    ((visited b (b.ancestors cut)).map (·.hash) = b.ancestors cut ∧
      (((b.cpVerts).map (·.hash)).Nodup → ((b.cpVerts ++ visited b (b.ancestors cut)).map (·.hash)).Nodup) ∧
      (b.truncateAt cut).1 =
        { b with cpFunds := newCpFunds b (visited b (b.ancestors cut)), cpVerts := b.cpVerts ++ visited b (b.ancestors cut),
                 verts := b.verts.filter (fun v => !(b.ancestors cut).contains v.hash),
                 edges := b.edges.filter (fun e => !(b.ancestors cut).contains e.1 && !(b.ancestors cut).contains e.2) }) := by
  cases hr : (b.truncateAt cut).2 with
  | error e => exact .inl (truncateAt_err hr)
  | ok u => exact .inr (truncateAt_ok hr)

theorem truncateAt_frame (b : Book) (cut : Hash) :
    (b.truncateAt cut).1.index = b.index ∧ (b.truncateAt cut).1.parked = b.parked ∧
    (b.truncateAt cut).1.loaded = b.loaded ∧ (b.truncateAt cut).1.genesis = b.genesis ∧
    (b.truncateAt cut).1.self = b.self := by
  rcases truncateAt_cases b cut with hb | ⟨_, _, hb⟩ <;> rw [hb] <;> exact ⟨rfl, rfl, rfl, rfl, rfl⟩

theorem truncateAt_sub (b : Book) (cut : Hash) :
    (∀ v ∈ (b.truncateAt cut).1.verts, v ∈ b.verts) ∧ ∀ e ∈ (b.truncateAt cut).1.edges, e ∈ b.edges := by
  rcases truncateAt_cases b cut with hb | ⟨_, _, hb⟩ <;> rw [hb]
  · exact ⟨fun _ h => h, fun _ h => h⟩
  · exact ⟨fun _ h => (List.mem_filter.1 h).1, fun _ h => (List.mem_filter.1 h).1⟩

/-- **Nothing is lost or duplicated**: live DAG and storage together hold the same vertices after a truncation,
rearranged. -/
theorem truncateAt_perm {b : Book} (h : IndexInv b) (cut : Hash) : (allV (b.truncateAt cut).1).Perm (allV b) := by
  rcases truncateAt_cases b cut with hb | ⟨_, e3, hb⟩
  · rw [hb]  -- refused: the book is untouched
  · rw [hb]
    -- the moved vertices are the live ones with a moved hash
    have hmv : (visited b (b.ancestors cut)).Perm (b.verts.filter (fun v => (b.ancestors cut).contains v.hash)) := by
      refine (List.perm_ext_iff_of_nodup (nodup_of_nodup_map (·.hash) ?_)
        (List.filter_sublist.nodup (nodup_of_nodup_map _ h.vertsNodup))).2 fun x => ?_
      · exact (List.nodup_append.1 (List.map_append ▸ e3 h.cpVertsNodup)).2.1
      · rw [List.mem_filter, List.contains_iff_mem]
        exact mem_visited h.vertsNodup
    simp only [allV]
    refine (List.Perm.append_left _ (List.perm_append_comm.trans (hmv.append_right _))).trans ?_
    rw [← List.append_assoc]
    exact ((List.perm_append_comm.trans (List.filter_append_perm _ _)).append_right _)

/-- **C07 uniqueness survives truncation**: the index invariant (no duplicate vertex, no duplicate
transaction over live DAG + storage, exact index) is preserved by `truncateAt`, whatever the cut. -/
theorem IndexInv.truncate {b : Book} (h : IndexInv b) (cut : Hash) : IndexInv (b.truncateAt cut).1 :=
  h.of_perm (truncateAt_perm h cut) (truncateAt_frame b cut).1

theorem mem_allV_truncate {b : Book} (h : IndexInv b) (cut : Hash) (x : Vertex) :
    x ∈ allV (b.truncateAt cut).1 ↔ x ∈ allV b := (truncateAt_perm h cut).mem_iff

theorem LedgerInv.truncate {b : Book} (h : LedgerInv b) (cut : Hash) : LedgerInv (b.truncateAt cut).1 := by
  have hmem := mem_allV_truncate h.idx cut
  have hidx := h.idx.truncate cut
  rcases truncateAt_cases b cut with hb | ⟨_, _, hb⟩ <;> rw [hb] at hmem hidx ⊢
  · exact h
  · exact ⟨hidx, fun v hv => h.sealing v ((hmem v).1 hv), fun v hv => h.verified v (List.mem_filter.1 hv).1,
      fun v hv => h.canon v ((hmem v).1 hv),
      fun e he => (canonB_iff _).2 (newCpFunds_canon b _ (fun e he => (canonB_iff _).1 (h.cpCanon e he))
        (fun v hv => (canonB_iff _).1 (h.canon v (mem_allV_of_live (visited_sub b _ v hv)))) e he),
      h.parkOk⟩

end CModel.Book
