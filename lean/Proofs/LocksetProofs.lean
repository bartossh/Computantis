import CModel.Lockset
/-! C18: mutual exclusion invariant of the lock machine. -/
namespace CModel.Lockset

def MutexInv (s : St) : Prop :=
  ∀ i j, i ≠ j → ∀ l e e', (l, e) ∈ (s i).held → (l, e') ∈ (s j).held → e = false ∧ e' = false

theorem mutex_start (prog : Gid → List Ev) : MutexInv (start prog) :=
  fun _ _ _ _ _ _ h => (List.not_mem_nil h).elim

theorem upd_self (s : St) (g : Gid) (v : G) : upd s g v g = v := if_pos rfl
theorem upd_other (s : St) (g j : Gid) (v : G) (h : j ≠ g) : upd s g v j = s j := if_neg h

theorem mem_held_upd {s : St} {g k : Gid} {v : G} {p : Lock × Bool} (hp : p ∈ (upd s g v k).held) :
    k = g ∧ p ∈ v.held ∨ p ∈ (s k).held := by
  by_cases hk : k = g
  · subst hk; rw [upd_self] at hp; exact .inl ⟨rfl, hp⟩
  · rw [upd_other _ _ _ _ hk] at hp; exact .inr hp

theorem MutexInv.shrink {s : St} (h : MutexInv s) {g : Gid} {v : G} (sub : ∀ p ∈ v.held, p ∈ (s g).held) :
    MutexInv (upd s g v) := by
  have old k p (hp : p ∈ (upd s g v k).held) : p ∈ (s k).held :=
    (mem_held_upd hp).elim (fun ⟨hk, m⟩ => hk ▸ sub p m) id
  exact fun i j hij l e e' hi hj => h i j hij l e e' (old i _ hi) (old j _ hj)

theorem mutex_step {s s' : St} (h : MutexInv s) (st : Step s s') : MutexInv s' := by
  cases st with
  | rel => exact h.shrink fun _ => List.mem_of_mem_erase
  | acc | atomicAcc => exact h.shrink fun _ => id
  | @acq g l e r _ hc =>
    -- what is held afterwards is the new `(l, e)` of `g`, which `CanAcquire` compares with all others, or old
    have new k p (hp : p ∈ (upd s g ⟨r, (l, e) :: (s g).held⟩ k).held) : k = g ∧ p = (l, e) ∨ p ∈ (s k).held :=
      (mem_held_upd hp).elim
        (fun ⟨hk, m⟩ => (List.mem_cons.1 m).elim (fun q => .inl ⟨hk, q⟩) fun o => .inr (hk ▸ o)) .inr
    intro i j hij l' e1 e2 h1 h2
    rcases new i _ h1 with ⟨rfl, q1⟩ | o1 <;> rcases new j _ h2 with ⟨rfl, q2⟩ | o2
    · exact absurd rfl hij
    · cases q1; exact hc j (Ne.symm hij) e2 o2
    · cases q2; exact (hc i hij e1 o1).symm
    · exact h i j hij l' e1 e2 o1 o2

theorem mutex_reach {prog : Gid → List Ev} {s : St} (h : Reach prog s) : MutexInv s := by
  induction h with
  | start => exact mutex_start prog
  | step _ st ih => exact mutex_step ih st

end CModel.Lockset
