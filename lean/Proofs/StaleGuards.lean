import Proofs.Reachable
/-! # Stale pre-lock checks (C03 under concurrent duplicates, and every other ledger invariant)

`CreateLeaf` and `addLeafMemorized` run their look-ups ("is the DAG loaded", "is this the genesis wallet",
"is this vertex / transaction already known") BEFORE taking the ledger lock; the body that changes the
ledger runs later, on whatever the book has become by then. This file shows that the locked bodies
(`createLeafLocked`, `addLeafLocked`) keep every ledger invariant when started from ANY reachable book with
the answers of an EARLIER book, as long as only ordinary calls ran in between. -/
namespace CModel.Book
open CModel

/-- same vertex hash, same transaction hash: the vertex hash covers the transaction (collision freedom of
SHA-256), stated only for the checkpointed vertices against the incoming one -/
def HashConsistent (b : Book) (leaf : Vertex) : Prop :=
  ∀ u ∈ b.cpVerts, u.hash = leaf.hash → u.trx.hash = leaf.trx.hash

theorem HashConsistent.of_cpVerts {b b' : Book} {leaf : Vertex} (h : b'.cpVerts = b.cpVerts)
    (hc : HashConsistent b leaf) : HashConsistent b' leaf := fun u hu => hc u (h ▸ hu)

/-- The locked body of `addLeafMemorized` on any book that satisfies the ledger invariants: the unlocked
existence look-ups may have been answered by an older book. If the vertex hash has meanwhile been
checkpointed the body changes nothing beyond its parent checks: the atomic index test refuses it. -/
theorem steps_addLeafLocked_stale (b : Book) (leaf : Vertex) (rep : Nat) (inv : LedgerInv b) (hg : AddGuards b leaf)
    (hgen : leaf.trx.issuer ≠ b.genesis) (hvok : leaf.vok = true) (hc : HashConsistent b leaf) :
    Steps b (b.addLeafLocked leaf rep).1 := by
  cases hcp : b.cpHasVertex leaf.hash with
  | false => exact steps_addLeafLocked b leaf rep hg hgen hvok hcp
  | true =>
    -- a checkpointed `u` has the hash, hence the transaction, of `leaf`; the parent loop leaves it stored and indexed
    obtain ⟨u, hu, hh⟩ := (cpHasVertex_iff _ _).1 hcp
    refine steps_addLeafLocked_of_insert b leaf rep hg fun b1 scp => ?_
    have hidx := (inv.steps scp).idx.holders u (mem_allV_of_cp (scp.frame.cpVerts ▸ hu))
    rw [hc u hu hh] at hidx
    rw [insertLinked_index_taken _ leaf _ ((indexHas_iff _ _).2 ⟨_, hidx⟩)]
    exact .refl _

/-- the fields the unlocked guards read have not changed -/
def Stable (b0 b1 : Book) : Prop := b1.loaded = b0.loaded ∧ b1.genesis = b0.genesis ∧ b1.self = b0.self

theorem Stable.refl (b : Book) : Stable b b := ⟨rfl, rfl, rfl⟩
theorem Stable.trans {a b c : Book} (h1 : Stable a b) (h2 : Stable b c) : Stable a c :=
  ⟨h2.1.trans h1.1, h2.2.1.trans h1.2.1, h2.2.2.trans h1.2.2⟩
theorem Stable.of_steps {b b' : Book} (s : Steps b b') : Stable b b' := ⟨s.frame.loaded, s.frame.genesis, s.frame.self⟩

theorem Stable.of_truncate (b : Book) (cut : Hash) : Stable b (b.truncateAt cut).1 :=
  let ⟨_, _, hl, hg, hs⟩ := truncateAt_frame b cut
  ⟨hl, hg, hs⟩

/-- What happens between the unlocked checks of one call and its locked body: any number of other calls
(everything except `CreateGenesis` / `LoadDag`, which only run on a fresh book before the node serves). -/
inductive Between : Book → Book → Prop
  | refl (b) : Between b b
  | createLeaf {a b} (trx o1 o2 tip) : Between a b → b.cpHasVertex tip.hash = false → Between a (b.createLeaf trx o1 o2 tip).1
  | addLeaf {a b} (v) : Between a b → Between a (b.addLeaf v).1
  | retry {a b} : Between a b → Between a b.retryParked.1
  | trust {a b} (x) : Between a b → Between a (b.addTrusted x)
  | untrust {a b} (x) : Between a b → Between a (b.removeTrusted x)
  | truncate {a b} (cut : Hash) : Between a b → Between a (b.truncateAt cut).1
  | steps {a b b'} : Between a b → Steps b b' → Between a b'

theorem Between.reachable {a b : Book} (h : Between a b) (r : Reachable a) : Reachable b := by
  induction h with
  | refl => exact r
  | createLeaf trx o1 o2 tip _ hf ih => exact .createLeaf trx o1 o2 tip ih hf
  | addLeaf v _ ih => exact .addLeaf v ih
  | retry _ ih => exact .retry ih
  | trust x _ ih => exact .trust x ih
  | untrust x _ ih => exact .untrust x ih
  | truncate cut _ ih => exact .truncate cut ih
  | steps _ s ih => exact .steps ih s

theorem Between.stable {a b : Book} (h : Between a b) (r : Reachable a) : Stable a b := by
  induction h with
  | refl => exact Stable.refl _
  | createLeaf trx o1 o2 tip _ hf ih => exact ih.trans (Stable.of_steps (steps_createLeaf _ trx o1 o2 tip hf))
  | addLeaf v _ ih => exact ih.trans (Stable.of_steps (steps_addLeaf _ v))
  | @retry b hb ih => exact ih.trans (Stable.of_steps (steps_retryParked _ (hb.reachable r).inv.parkOk))
  | @trust b x _ ih => exact ih.trans (Stable.of_steps (.single (.misc (coreEq_addTrusted b x))))
  | @untrust b x _ ih => exact ih.trans (Stable.of_steps (.single (.misc (coreEq_removeTrusted b x))))
  | truncate cut _ ih => exact ih.trans (Stable.of_truncate _ cut)
  | steps _ s ih => exact ih.trans (Stable.of_steps s)

/-- what `AddLeaf` / `addLeafMemorized` establish before the lock, on the book `b0` of that moment (the
existence look-ups also passed on `b0`; nothing below needs them) -/
structure AddPre (b0 : Book) (leaf : Vertex) : Prop where
  guards : AddGuards b0 leaf
  notGenesis : leaf.trx.issuer ≠ b0.genesis
  vok : leaf.vok = true

/-- **Stale pre-checks are harmless (gossip / retry path).** The unlocked checks of `addLeafMemorized` were
made on `b0`; other calls then took the ledger to `b1`; the locked body runs on `b1`. The result is a
reachable book: every invariant proved for reachable books holds of it. -/
theorem addLeaf_stale_prechecks {b0 b1 : Book} (r0 : Reachable b0) (bt : Between b0 b1) (leaf : Vertex) (rep : Nat)
    (pre : AddPre b0 leaf) (hc : HashConsistent b1 leaf) : Reachable (b1.addLeafLocked leaf rep).1 := by
  have r1 := bt.reachable r0
  obtain ⟨sl, sg, _⟩ := bt.stable r0
  exact .steps r1 (steps_addLeafLocked_stale b1 leaf rep r1.inv (pre.guards.of_loaded sl) (sg ▸ pre.notGenesis) pre.vok hc)

/-- what `CreateLeaf` establishes before the lock on the book `b0` of that moment -/
structure CreatePre (b0 : Book) (trx : Trx) : Prop where
  guards : CreateGuards b0 trx

/-- **Stale pre-checks are harmless (local proposals).** -/
theorem createLeaf_stale_prechecks {b0 b1 : Book} (r0 : Reachable b0) (bt : Between b0 b1) (trx : Trx) (o1 o2 : List Hash)
    (tip : Vertex) (pre : CreatePre b0 trx) (hf : b1.cpHasVertex tip.hash = false) :
    Reachable (b1.createLeafLocked trx o1 o2 tip).1 := by
  have r1 := bt.reachable r0
  obtain ⟨sl, sg, ss⟩ := bt.stable r0
  exact .steps r1 (steps_createLeafLocked b1 trx o1 o2 tip
    { pre.guards with loaded := sl ▸ pre.guards.loaded, notOwn := ss ▸ pre.guards.notOwn,
                      notGenesis := sg ▸ pre.guards.notGenesis } hf)

end CModel.Book
