import Proofs.LedgerTr
/-! # C13: the orphan buffer neither loses nor invents vertices

Deliveries (`AddLeaf`) of any vertices in any order, with any duplicates, interleaved with retry ticks of
the orphan buffer. Every call reports its outcome; as long as the only outcomes are "admitted", "parked
because a parent is missing" and "already known", every delivered vertex is in the ledger or in the
buffer, nothing that was in the ledger leaves it, and nothing else enters it. Hence a quiescent node
(empty buffer) holds exactly what it started with plus everything delivered - whatever the order. -/
namespace CModel.Book
open CModel

def Benign : Except Err Unit → Prop
  | .ok () => True
  | .error e => e = [.noParent] ∨ e = [.leafExists]

theorem not_benign {e : Err} {l : List Err} (hm : e ∈ l)
    (hl : ∀ x ∈ l, x ≠ [.noParent] ∧ x ≠ [.leafExists]) : ¬ Benign (.error e) :=
  fun hb => hb.elim (hl e hm).1 (hl e hm).2

/-- What a call that offers `v` with retry counter `rep` (`AddLeaf` has `rep = 0`) does to the vertices held and to
the orphan buffer, by the outcome it reports. -/
inductive Offered (b : Book) (v : Vertex) (rep : Nat) (out : Book × Except Err Unit) : Prop
  | admitted : out.2 = .ok () → out.1.verts = b.verts ++ [v] → out.1.cpVerts = b.cpVerts → out.1.parked = b.parked →
      Offered b v rep out
  | parked : out.2 = .error [.noParent] → out.1.verts = b.verts → out.1.cpVerts = b.cpVerts →
      out.1.parked = b.parked ++ [(v, rep + 1)] → rep ≤ maxRepeats → b.parked.length ≠ maxArraySize → Offered b v rep out
  | known : out = (b, .error [.leafExists]) → b.checkVertexExists v.hash = true → Offered b v rep out
  /-- any other error: live vertices may have been dropped, the buffer is as it was -/
  | refused (e : Err) : out.2 = .error e → ¬ Benign (.error e) → out.1.parked = b.parked → Offered b v rep out

theorem addLeafLocked_offered (b : Book) (v : Vertex) (rep : Nat) : Offered b v rep (b.addLeafLocked v rep) := by
  rcases addLeafLocked_cases b v rep with ⟨b1, e, hcp, h⟩ | ⟨b1, vs, hcp, h1, hr⟩
  · rw [h]
    rcases (checkParents_cases hcp).2 with ⟨rfl, c1, c2, c3, hr, hl⟩ | ⟨e', rfl, c3⟩
    · exact .parked rfl c1 c2 c3 hr hl
    · exact .refused _ rfl (by simp [Benign]) c3
  · obtain ⟨_, c1, c2, c3⟩ := (checkParents_cases hcp).2
    obtain ⟨i2, i3, i1⟩ := insertLinked_held b1 v
    rcases hr with ⟨hn, hok⟩ | ⟨e, herr, hm⟩
    · exact .admitted hok (by rw [h1, i1 hn, c1]) (by rw [h1, i2, c2]) (by rw [h1, i3, c3])
    · exact .refused e herr (not_benign hm (by decide)) (by rw [h1, i3, c3])

theorem addLeafMemorized_offered (b : Book) (v : Vertex) (rep : Nat) : Offered b v rep (b.addLeafMemorized v rep) := by
  rcases addLeafMemorized_cases b v rep with ⟨e, h, ⟨rfl, hx⟩ | hm⟩ | ⟨_, _, _, _, h⟩ <;> rw [h]
  · exact .known rfl hx
  · exact .refused e rfl (not_benign hm (by decide)) rfl
  · exact addLeafLocked_offered b v rep

theorem addLeaf_offered (b : Book) (v : Vertex) : Offered b v 0 (b.addLeaf v) := by
  rcases addLeaf_cases b v with ⟨e, h, hm⟩ | ⟨_, h⟩ <;> rw [h]
  · exact .refused e rfl (not_benign hm (by decide)) rfl
  · exact addLeafMemorized_offered b v 0

/-- What a call that offered `v` and reported a benign outcome did: DAG and buffer only grew, by nothing but
`v`, storage is untouched, and `v` is now held or parked. -/
def Settled (b : Book) (v : Vertex) (b' : Book) : Prop :=
  ∃ a p, b'.verts = b.verts ++ a ∧ b'.cpVerts = b.cpVerts ∧ b'.parked = b.parked ++ p ∧
    (∀ u ∈ a, u = v) ∧ (∀ q ∈ p, q.1 = v) ∧
    (b'.hasVertex v.hash = true ∨ b'.cpHasVertex v.hash = true ∨ v ∈ b'.parked.map (·.1))

theorem Offered.settled {b : Book} {v : Vertex} {rep : Nat} {out : Book × Except Err Unit} (h : Offered b v rep out)
    (hb : Benign out.2) : Settled b v out.1 := by
  rcases h with ⟨_, e1, e2, e3⟩ | ⟨_, e1, e2, e3, _, _⟩ | ⟨rfl, hx⟩ | ⟨e, he, hne, _⟩
  · exact ⟨[v], [], e1, e2, by rw [e3, List.append_nil], fun _ hu => List.mem_singleton.1 hu, List.forall_mem_nil _,
      .inl ((hasVertex_iff _ _).2 ⟨v, e1 ▸ List.mem_append_right _ List.mem_cons_self, rfl⟩)⟩
  · exact ⟨[], [(v, rep + 1)], by rw [e1, List.append_nil], e2, e3, List.forall_mem_nil _,
      fun _ hq => List.mem_singleton.1 hq ▸ rfl,
      .inr (.inr (List.mem_map.2 ⟨(v, rep + 1), e3 ▸ List.mem_append_right _ List.mem_cons_self, rfl⟩))⟩
  · exact ⟨[], [], (List.append_nil _).symm, rfl, (List.append_nil _).symm, List.forall_mem_nil _, List.forall_mem_nil _,
      (Bool.or_eq_true_iff.1 hx).elim .inl (.inr ∘ .inl)⟩
  · exact absurd (he ▸ hb) hne

inductive DOp
  | deliver (v : Vertex)     -- AddLeaf (gossip hand-over); any vertex, any number of times
  | tick                     -- one tick of the orphan buffer's retry loop

/-- one call; the outcome reported to the caller / logged by the retry loop (`none`: the buffer was empty) -/
def dstep (b : Book) : DOp → Book × Option (Except Err Unit)
  | .deliver v => ((b.addLeaf v).1, some (b.addLeaf v).2)
  | .tick =>
    match b.retryParked with
    | (b', none) => (b', none)
    | (b', some (_, r)) => (b', some r)

def drun (b : Book) : List DOp → Book
  | [] => b
  | op :: ops => drun (dstep b op).1 ops

theorem dstep_tick (b : Book) : (dstep b .tick).1 = b.retryParked.1 := by
  simp only [dstep]; split <;> rename_i h <;> rw [h]

/-- every call of the run reported "admitted", "parked: parent missing" or "already known" -/
def AllBenign (b : Book) : List DOp → Prop
  | [] => True
  | op :: ops => (∀ r, (dstep b op).2 = some r → Benign r) ∧ AllBenign (dstep b op).1 ops

/-- invariant of a benign run that started in `b0` with an empty buffer, after the calls `past` -/
structure OrphanInv (b0 : Book) (past : List DOp) (b : Book) : Prop where
  kept : ∀ u ∈ b0.verts, u ∈ b.verts
  onlyDelivered : ∀ u ∈ b.verts, u ∈ b0.verts ∨ DOp.deliver u ∈ past
  parkedDelivered : ∀ p ∈ b.parked, DOp.deliver p.1 ∈ past
  accounted : ∀ v, DOp.deliver v ∈ past → b.hasVertex v.hash = true ∨ b.cpHasVertex v.hash = true ∨ v ∈ b.parked.map (·.1)
  storage : b.cpVerts = b0.cpVerts

/-- One benign call that offered `v` (already counted among the deliveries `past'`) keeps the invariant; the
book `b1` it ran on may lack `v` in its buffer (a retry tick has just taken it out). -/
theorem OrphanInv.settle {b0 b1 b' : Book} {past' : List DOp} {v : Vertex} (hs : Settled b1 v b')
    (hv : DOp.deliver v ∈ past') (kept : ∀ u ∈ b0.verts, u ∈ b1.verts)
    (only : ∀ u ∈ b1.verts, u ∈ b0.verts ∨ DOp.deliver u ∈ past')
    (pk : ∀ p ∈ b1.parked, DOp.deliver p.1 ∈ past')
    (acc : ∀ w, DOp.deliver w ∈ past' → w = v ∨ b1.hasVertex w.hash = true ∨ b1.cpHasVertex w.hash = true ∨ w ∈ b1.parked.map (·.1))
    (st : b1.cpVerts = b0.cpVerts) : OrphanInv b0 past' b' := by
  obtain ⟨a, p, e1, e2, e3, ha, hp, hacc⟩ := hs
  refine ⟨fun u hu => e1 ▸ List.mem_append_left _ (kept u hu), fun u hu => ?_, fun q hq => ?_, fun w hw => ?_, e2 ▸ st⟩
  · rcases List.mem_append.1 (e1 ▸ hu) with hu | hu
    · exact only u hu
    · exact .inr (ha u hu ▸ hv)
  · rcases List.mem_append.1 (e3 ▸ hq) with hq | hq
    · exact pk q hq
    · exact hp q hq ▸ hv
  · rcases acc w hw with rfl | h | h | h
    · exact hacc
    · obtain ⟨u, hu, hh⟩ := (hasVertex_iff _ _).1 h
      exact .inl ((hasVertex_iff _ _).2 ⟨u, e1 ▸ List.mem_append_left _ hu, hh⟩)
    · exact .inr (.inl ((cpHasVertex_congr e2 _).trans h))
    · exact .inr (.inr (by rw [e3, List.map_append]; exact List.mem_append_left _ h))

theorem orphanInv_step {b0 b : Book} {past : List DOp} (h : OrphanInv b0 past b) (op : DOp)
    (hb : ∀ r, (dstep b op).2 = some r → Benign r) : OrphanInv b0 (past ++ [op]) (dstep b op).1 := by
  have old : ∀ {x}, x ∈ past → x ∈ past ++ [op] := List.mem_append_left _
  cases op with
  | deliver v =>
    refine OrphanInv.settle ((addLeaf_offered b v).settled (hb _ rfl)) (by simp) h.kept
      (fun u hu => (h.onlyDelivered u hu).imp_right old) (fun p hp => old (h.parkedDelivered p hp)) (fun w hw => ?_) h.storage
    rcases List.mem_append.1 hw with hw | hw
    · exact .inr (h.accounted w hw)
    · exact .inl (by simpa using hw)
  | tick =>
    rcases retryParked_cases b with ⟨_, e⟩ | ⟨v, rep, rest, hq, e⟩ <;> simp only [dstep, e] at hb ⊢
    · exact ⟨h.kept, fun u hu => (h.onlyDelivered u hu).imp_right old, fun p hp => old (h.parkedDelivered p hp),
        fun w hw => h.accounted w (by simpa using hw), h.storage⟩
    · -- the head of the buffer is offered again, to the book without it
      refine OrphanInv.settle (b1 := { b with parked := rest }) ((addLeafMemorized_offered _ v rep).settled (hb _ rfl))
        (old (h.parkedDelivered (v, rep) (hq ▸ List.mem_cons_self))) h.kept
        (fun u hu => (h.onlyDelivered u hu).imp_right old)
        (fun p hp => old (h.parkedDelivered p (hq ▸ List.mem_cons_of_mem _ hp))) (fun w hw => ?_) h.storage
      rcases h.accounted w (by simpa using hw) with a | a | a
      · exact .inr (.inl a)
      · exact .inr (.inr (.inl a))
      · rw [hq, List.map_cons, List.mem_cons] at a
        exact a.elim .inl fun a => .inr (.inr (.inr a))

theorem orphanInv_run {b0 b : Book} {past : List DOp} (ops : List DOp) (h : OrphanInv b0 past b) (hb : AllBenign b ops) :
    OrphanInv b0 (past ++ ops) (drun b ops) := by
  induction ops generalizing b past with
  | nil => simpa [drun] using h
  | cons op ops ih =>
    have := ih (orphanInv_step h op hb.1) hb.2
    simpa [drun, List.append_assoc] using this

theorem orphanInv_start (b0 : Book) (hq : b0.parked = []) : OrphanInv b0 [] b0 :=
  ⟨fun _ h => h, fun _ h => Or.inl h, hq ▸ List.forall_mem_nil _, fun _ hv => (List.not_mem_nil hv).elim, rfl⟩

theorem orphanInv_drun {b0 : Book} (hq : b0.parked = []) {ops : List DOp} (hb : AllBenign b0 ops) :
    OrphanInv b0 ops (drun b0 ops) :=
  orphanInv_run ops (orphanInv_start b0 hq) hb

end CModel.Book
