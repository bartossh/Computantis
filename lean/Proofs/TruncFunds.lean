import Proofs.Funds
import Proofs.AssocList
/-! C07: the checkpointed funds written by a truncation are exactly checkpoint + inflow − outflow over the
moved vertices (precalculate.go: accumulate `in` and `out` per wallet, one `Drain` at the end). -/
namespace CModel.Book
open CModel CModel.Melange

theorem supply_exact (m a : Melange) (hm : Canon m) (ha : Canon a) (h : val m + val a < capacity) :
    val (m.supply a).1 = val m + val a ∧ Canon (m.supply a).1 := by
  rcases supply_cases m a hm ha with ⟨m', he, hv, hc⟩ | ⟨_, hov⟩
  · rw [he]; exact ⟨hv, hc⟩
  · exact absurd hov (Nat.not_le.2 h)

theorem supply_if_exact (c : Bool) (m s : Melange) (hm : Canon m) (hs : Canon s)
    (h : val m + (if c then val s else 0) < capacity) :
    val (if c then (m.supply s).1 else m) = val m + (if c then val s else 0) := by
  cases c
  · exact (Nat.add_zero _).symm
  · exact (supply_exact m s hm hs h).1

def PreC (p : Pre) : Prop := Canon p.inn ∧ Canon p.out

theorem fmGet_canon (m : List (Addr × Pre)) (hm : ∀ e ∈ m, PreC e.2) (a : Addr) : PreC (fmGet m a) :=
  forall_getD_alGet (P := PreC) hm (d := {}) ⟨canon_zero, canon_zero⟩ a

theorem fmNext_canon (m : List (Addr × Pre)) (hm : ∀ e ∈ m, PreC e.2) (v : Vertex) (hv : Canon v.trx.spice) :
    ∀ e ∈ fmNext m v, PreC e.2 := by
  fun_cases fmNext m v
  · exact hm
  · unfold fmUpdate
    have h1 := fmGet_canon m hm v.trx.issuer
    have hm1 : ∀ e ∈ fmSet m v.trx.issuer { fmGet m v.trx.issuer with out := ((fmGet m v.trx.issuer).out.supply v.trx.spice).1 },
        PreC e.2 := forall_alSet _ _ _ hm ⟨h1.1, supply_canon _ _ h1.2 hv⟩
    have h2 := fmGet_canon _ hm1 v.trx.receiver
    exact forall_alSet _ _ _ hm1 ⟨supply_canon _ _ h2.1 hv, h2.2⟩

theorem foldl_fmNext_canon (mv : List Vertex) (m : List (Addr × Pre)) (hm : ∀ e ∈ m, PreC e.2)
    (hv : ∀ v ∈ mv, Canon v.trx.spice) : ∀ e ∈ mv.foldl fmNext m, PreC e.2 :=
  List.foldlRecOn (motive := fun m : List (Addr × Pre) => ∀ e ∈ m, PreC e.2) mv fmNext hm
    fun m hm v hvm => fmNext_canon m hm v (hv v hvm)

def fm0 (cp : List (Addr × Melange)) : List (Addr × Pre) := cp.map (fun e => (e.1, { inn := e.2 }))

theorem fm0_canon {cp : List (Addr × Melange)} (hcp : ∀ e ∈ cp, Canon e.2) : ∀ e ∈ fm0 cp, PreC e.2 := fun e he => by
  obtain ⟨x, hx, rfl⟩ := List.mem_map.1 he
  exact ⟨hcp x hx, canon_zero⟩

theorem newCpFunds_eq (b : Book) (mv : List Vertex) :
    newCpFunds b mv = (mv.foldl fmNext (fm0 b.cpFunds)).foldl (fun l e => alSet l e.1 (fmFinal e.2)) b.cpFunds := by
  simp only [newCpFunds, fm0, cpFundsSet_eq]

theorem keys_newCpFunds_nodup (b : Book) (mv : List Vertex) (h : (keys b.cpFunds).Nodup) : (keys (newCpFunds b mv)).Nodup :=
  newCpFunds_eq b mv ▸ keys_foldl_alSet_nodup _ fmFinal b.cpFunds h

theorem newCpFunds_canon (b : Book) (mv : List Vertex) (hcp : ∀ e ∈ b.cpFunds, Canon e.2)
    (hmv : ∀ v ∈ mv, Canon v.trx.spice) : ∀ e ∈ newCpFunds b mv, Canon e.2 := by
  have hfm := foldl_fmNext_canon mv _ (fm0_canon hcp) hmv
  rw [newCpFunds_eq]
  exact List.foldlRecOn (motive := fun l : List (Addr × Melange) => ∀ e ∈ l, Canon e.2) _ _ hcp fun l hl p hp =>
    forall_alSet l p.1 _ hl (drain_canon _ _ (hfm p hp).1 (hfm p hp).2)

theorem fmGet_fmUpdate (m : List (Addr × Pre)) (i r : Addr) (s : Melange) (a : Addr) :
    (fmGet (fmUpdate m i r s) a).inn = (if r == a then ((fmGet m a).inn.supply s).1 else (fmGet m a).inn) ∧
    (fmGet (fmUpdate m i r s) a).out = (if i == a then ((fmGet m a).out.supply s).1 else (fmGet m a).out) := by
  unfold fmUpdate
  simp only [fmSet_eq, fmGet_eq, alGet_alSet, beq_iff_eq]
  by_cases har : r = a <;> by_cases hai : i = a
  · -- a transfer to oneself: the receiver's entry is read after the issuer's write, which changed `out` and no `inn`
    subst har; subst hai; simp
  · subst har; simp [hai, Ne.symm hai]
  · subst hai; simp [har, Ne.symm har]
  · simp [har, hai, Ne.symm har, Ne.symm hai]

theorem fmGet_fmNext (fm : List (Addr × Pre)) (v : Vertex) (a : Addr) (hcv : Canon v.trx.spice) (hp : PreC (fmGet fm a))
    (hin : val (fmGet fm a).inn + inAmt a v < capacity) (hout : val (fmGet fm a).out + outAmt a v < capacity) :
    val (fmGet (fmNext fm v) a).inn = val (fmGet fm a).inn + inAmt a v ∧
    val (fmGet (fmNext fm v) a).out = val (fmGet fm a).out + outAmt a v := by
  fun_cases fmNext fm v
  case case1 hs =>
    simp only [inAmt, outAmt, val_spice_of_not_isSpice ((Bool.not_eq_true' _).mp hs), ite_self, Nat.add_zero, and_self]
  case case2 =>
    obtain ⟨e1, e2⟩ := fmGet_fmUpdate fm v.trx.issuer v.trx.receiver v.trx.spice a
    rw [e1, e2]
    exact ⟨supply_if_exact (v.trx.receiver == a) _ _ hp.1 hcv hin, supply_if_exact (v.trx.issuer == a) _ _ hp.2 hcv hout⟩

/-- precalculate.go ignores the errors of `Supply`, so the accumulated sums are exact only as long as both stay
representable. -/
theorem fmGet_foldl_fmNext (mv : List Vertex) (fm : List (Addr × Pre)) (a : Addr)
    (hc : ∀ v ∈ mv, Canon v.trx.spice) (hfm : ∀ e ∈ fm, PreC e.2)
    (hin : val (fmGet fm a).inn + inflow a mv < capacity) (hout : val (fmGet fm a).out + outflow a mv < capacity) :
    val (fmGet (mv.foldl fmNext fm) a).inn = val (fmGet fm a).inn + inflow a mv ∧
    val (fmGet (mv.foldl fmNext fm) a).out = val (fmGet fm a).out + outflow a mv := by
  induction mv generalizing fm with
  | nil => exact ⟨by simp [inflow], by simp [outflow]⟩
  | cons v mv ih =>
    have hv := hc v List.mem_cons_self
    -- reassociated, the sums after the first vertex are the starting sums for the rest
    rw [inflow_cons, ← Nat.add_assoc] at hin ⊢
    rw [outflow_cons, ← Nat.add_assoc] at hout ⊢
    obtain ⟨k1, k2⟩ := fmGet_fmNext fm v a hv (fmGet_canon fm hfm a)
      (Nat.lt_of_le_of_lt (Nat.le_add_right _ _) hin) (Nat.lt_of_le_of_lt (Nat.le_add_right _ _) hout)
    rw [← k1] at hin ⊢
    rw [← k2] at hout ⊢
    exact ih (fmNext fm v) (fun x hx => hc x (List.mem_cons_of_mem _ hx)) (fmNext_canon fm hfm v hv) hin hout

theorem keys_fmNext_nodup (m : List (Addr × Pre)) (v : Vertex) (h : (keys m).Nodup) : (keys (fmNext m v)).Nodup := by
  fun_cases fmNext m v
  · exact h
  · exact keys_alSet_nodup _ _ _ (keys_alSet_nodup _ _ _ h)

theorem keys_fm0 (cp : List (Addr × Melange)) : keys (fm0 cp) = keys cp :=
  keys_map_val cp (fun m => ({ inn := m } : Pre))

theorem alGet_fm0 (cp : List (Addr × Melange)) (a : Addr) : alGet (fm0 cp) a = (alGet cp a).map (fun m => { inn := m }) :=
  alGet_map_val cp (fun m => ({ inn := m } : Pre)) a

theorem fmFinal_exact (p : Pre) (hp : PreC p) (h : val p.out ≤ val p.inn) : val (fmFinal p) + val p.out = val p.inn := by
  unfold fmFinal
  rcases drain_zero_cases p.inn p.out hp.1 hp.2 with ⟨f', t', he, hv, _⟩ | ⟨_, hlt⟩
  · rw [he]; exact hv
  · exact absurd hlt (Nat.not_lt.2 h)

/-- **Checkpoint exactness**: after the moved vertices `mv` have been folded into the checkpointed funds, the value
stored for wallet `a` is checkpoint + inflow − outflow over `mv` — whenever that is a representable, non-negative
amount (the two excluded cases are the known findings: a net debt is clipped, an inflow beyond 2^64 units
overflows). -/
theorem newCpFunds_exact {b b' : Book} {mv : List Vertex} (hb' : b'.cpFunds = newCpFunds b mv) (a : Addr)
    (hk : (keys b.cpFunds).Nodup) (hcp : ∀ e ∈ b.cpFunds, Canon e.2) (hmv : ∀ v ∈ mv, Canon v.trx.spice)
    (hin : cpVal b a + inflow a mv < capacity) (hcov : outflow a mv ≤ cpVal b a + inflow a mv) :
    cpVal b' a + outflow a mv = cpVal b a + inflow a mv := by
  -- the starting entry of `a`: its checkpointed funds as inflow, no outflow
  have h0 : fmGet (fm0 b.cpFunds) a = { inn := (b.cpFundsGet a).getD Melange.zero } := by
    rw [fmGet_eq, alGet_fm0, cpFundsGet_eq]
    cases alGet b.cpFunds a <;> rfl
  obtain ⟨hi, ho⟩ := fmGet_foldl_fmNext mv _ a hmv (fm0_canon hcp)
    (by rw [h0]; exact hin) (by rw [h0]; simp only [val_zero, Nat.zero_add]; exact Nat.lt_of_le_of_lt hcov hin)
  have hpc := fmGet_canon _ (foldl_fmNext_canon mv _ (fm0_canon hcp) hmv) a
  simp only [h0, val_zero, Nat.zero_add] at hi ho
  rw [fmGet_eq] at hi ho hpc
  -- the funds map after the fold is written back entry by entry, and its keys are distinct
  have hkeys : (keys (mv.foldl fmNext (fm0 b.cpFunds))).Nodup :=
    List.foldlRecOn (motive := fun m => (keys m).Nodup) mv fmNext (keys_fm0 _ ▸ hk) fun m hm v _ => keys_fmNext_nodup m v hm
  show val ((alGet b'.cpFunds a).getD Melange.zero) + outflow a mv = cpVal b a + inflow a mv
  rw [hb', newCpFunds_eq, alGet_foldl_alSet _ fmFinal _ a hkeys]
  cases hg : alGet (mv.foldl fmNext (fm0 b.cpFunds)) a with
  | some p =>
    rw [hg, Option.getD_some] at hi ho hpc
    have := fmFinal_exact p hpc (by rw [hi, ho]; exact hcov)
    rw [hi, ho] at this
    exact this
  | none =>
    -- no entry for `a`: its flows are those of the empty entry, 0, and the old checkpoint entry is left as it is
    have hz : val ({} : Pre).inn = 0 := val_zero
    simp only [hg, Option.getD_none, hz] at hi ho
    exact show cpVal b a + outflow a mv = _ by rw [← ho, (Nat.add_eq_zero_iff.1 hi.symm).2]

end CModel.Book
