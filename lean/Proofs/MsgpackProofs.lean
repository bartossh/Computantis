import CModel.Msgpack
import Proofs.Base256
/-! C19: round-trip lemmas for the storage codec model (parser ∘ encoder = id, with any suffix). -/
namespace CModel.Msgpack
open Base256

theorem byte_toNat (n : Nat) : (byte n).toNat = n % 256 := by
  unfold byte; simp [UInt8.toNat_ofNat']

theorem fromBe_eq_ofBE (bs : Bytes) : fromBe bs = ofBE bs := by
  rw [fromBe, ofBE, ofDigits, List.foldl_map]

theorem fromBe_toBE (k n : Nat) (h : n < 256 ^ k) : fromBe (toBE k n) = n := by
  rw [fromBe_eq_ofBE, ofBE_toBE, Nat.mod_eq_of_lt h]

theorem byte_eq (n : Nat) : [byte n] = toBE 1 n := rfl
theorem be16_eq (n : Nat) : be16 n = toBE 2 n := rfl
theorem be32_eq (n : Nat) : be32 n = toBE 4 n := by simp [be32, byte, toBE, Nat.div_div_eq_div_mul]
theorem be64_eq (n : Nat) : be64 n = toBE 8 n := by
  rw [be64, be32_eq, be32_eq]; exact (toBE_add 4 4 n).symm

theorem fromBe_one (n : Nat) (h : n < 256) : fromBe [byte n] = n := by
  rw [byte_eq, fromBe_toBE 1 n h]
theorem fromBe_be16 (n : Nat) (h : n < 65536) : fromBe (be16 n) = n := by
  rw [be16_eq, fromBe_toBE 2 n h]
theorem fromBe_be32 (n : Nat) (h : n < 4294967296) : fromBe (be32 n) = n := by
  rw [be32_eq, fromBe_toBE 4 n h]
theorem fromBe_be64 (n : Nat) (h : n < 18446744073709551616) : fromBe (be64 n) = n := by
  rw [be64_eq, fromBe_toBE 8 n h]

theorem takeN_append (xs rest : Bytes) (k : Nat) (h : xs.length = k) : takeN k (xs ++ rest) = some (xs, rest) := by
  subst h
  unfold takeN
  simp [List.take_left', List.drop_left']

theorem expect_append (k rest : Bytes) : expect k (k ++ rest) = some ((), rest) := by
  unfold expect
  simp [List.take_left', List.drop_left']

theorem pU64_enc (n : Nat) (h : n < 18446744073709551616) (rest : Bytes) :
    pU64 (encU64 n ++ rest) = some (n, rest) := by
  simp [pU64, encU64, takeN_append (be64 n) rest 8 rfl, fromBe_be64 n h]

/-- The length header as `strHdr` (from 32 on) and `binHdr` write it, shortest form first, read back by `pLen`. -/
theorem pLen_hdr (h8 h16 h32 : UInt8) (d1 : h16 ≠ h8) (d2 : h32 ≠ h8) (d3 : h32 ≠ h16) (n : Nat)
    (hn : n < 4294967296) (rest : Bytes) :
    pLen h8 h16 h32 ((if n < 256 then [h8, byte n] else if n < 65536 then h16 :: be16 n else h32 :: be32 n) ++ rest)
      = some (n, rest) := by
  by_cases c1 : n < 256
  · have t : takeN 1 (byte n :: rest) = some ([byte n], rest) := takeN_append [byte n] rest 1 rfl
    rw [if_pos c1]; simp [pLen, t, fromBe_one n c1]
  · by_cases c2 : n < 65536
    · rw [if_neg c1, if_pos c2]; simp [pLen, d1, takeN_append (be16 n) rest 2 rfl, fromBe_be16 n c2]
    · rw [if_neg c1, if_neg c2]; simp [pLen, d2, d3, takeN_append (be32 n) rest 4 rfl, fromBe_be32 n hn]

theorem pBin_of_pLen {bs r : Bytes} {n : Nat} (h : pLen 0xc4 0xc5 0xc6 bs = some (n, r)) :
    pBin bs = (takeN n r).map fun (b, r') => (some b, r') := by
  unfold pBin
  split
  · simp [pLen] at h
  · rw [h]

theorem pStr_of_pLen {bs r : Bytes} {n : Nat} (h : pLen 0xd9 0xda 0xdb bs = some (n, r)) : pStr bs = takeN n r := by
  cases bs with
  | nil => simp [pLen] at h
  | cons b rest =>
    unfold pStr
    by_cases c : (160 ≤ b.toNat && b.toNat < 192) = true
    · -- a fixstr header lies below the three `str` headers, so `pLen` would have failed on it
      have hlt : b.toNat < 192 := of_decide_eq_true (Bool.and_eq_true_iff.mp c).2
      have ne : ∀ x : UInt8, 192 ≤ x.toNat → (b == x) = false := fun x hx =>
        beq_false_of_ne fun e => absurd (e ▸ hlt) (Nat.not_lt.2 hx)
      simp [pLen, ne 0xd9 (by decide), ne 0xda (by decide), ne 0xdb (by decide)] at h
    · simp [c, h]

theorem pStr_enc (s : Bytes) (h : s.length < 4294967296) (rest : Bytes) :
    pStr (encStr s ++ rest) = some (s, rest) := by
  unfold encStr strHdr
  by_cases h1 : s.length < 32
  · have hlt : 160 + s.length < 192 := Nat.add_lt_add_left h1 160
    have hb : (byte (160 + s.length)).toNat = 160 + s.length :=
      (byte_toNat _).trans (Nat.mod_eq_of_lt (Nat.lt_trans hlt (by decide)))
    have c1 : (decide (160 ≤ 160 + s.length) && decide (160 + s.length < 192)) = true := by
      simp only [Bool.and_eq_true, decide_eq_true_eq]; exact ⟨Nat.le_add_right .., hlt⟩
    simp only [h1, if_true, List.cons_append, List.nil_append, pStr, hb, c1, Nat.add_sub_cancel_left,
      takeN_append s rest _ rfl]
  · rw [if_neg h1, List.append_assoc,
      pStr_of_pLen (pLen_hdr _ _ _ (by decide) (by decide) (by decide) s.length h (s ++ rest)),
      takeN_append s rest _ rfl]

/-- A byte slice that may be nil is shorter than 2^32 if it is there (a proposition, not a length). -/
def optLen (b : Option Bytes) : Prop := ∀ x, b = some x → x.length < 4294967296

theorem optLen_some (b : Bytes) (h : b.length < 4294967296) : optLen (some b) := by
  intro x hx; cases hx; exact h

theorem pBin_enc (b : Option Bytes) (h : optLen b) (rest : Bytes) :
    pBin (encBin b ++ rest) = some (b, rest) := by
  cases b with
  | none => simp [encBin, pBin]
  | some x =>
    rw [encBin, binHdr, List.append_assoc,
      pBin_of_pLen (pLen_hdr _ _ _ (by decide) (by decide) (by decide) x.length (h x rfl) (x ++ rest)),
      takeN_append x rest _ rfl]
    rfl

theorem pTime_enc (sec nsec : Nat) (hs : sec < 18446744073709551616) (hn : nsec < 1000000000) (rest : Bytes) :
    pTime (encTime sec nsec ++ rest) = some ((sec, nsec), rest) := by
  unfold encTime
  by_cases h1 : sec / 17179869184 = 0
  · -- `nsec * 2^34 + sec` with `sec < 2^34`: the decoder's `%` and `/` give back the two digits
    have hlt := Nat.lt_of_div_eq_zero (by decide) h1
    have e1 : (nsec * 17179869184 + sec) % 17179869184 = sec := Nat.mul_add_mod_of_lt hlt
    have e2 : (nsec * 17179869184 + sec) / 17179869184 = nsec := by
      rw [Nat.add_comm, Nat.add_mul_div_right _ _ (by decide), h1, Nat.zero_add]
    by_cases h2 : (nsec * 17179869184 + sec) / 4294967296 = 0
    · -- the 32-bit form has no room for nanoseconds: it is chosen only when there are none
      have hd := Nat.lt_of_div_eq_zero (by decide) h2
      have hz : nsec = 0 := e2.symm.trans (Nat.div_eq_of_lt (Nat.lt_trans hd (by decide)))
      simp only [h1, h2, if_true, List.cons_append, List.nil_append, pTime, takeN_append (be32 _) rest 4 rfl,
        Option.map_some, fromBe_be32 _ hd]
      rw [hz, Nat.zero_mul, Nat.zero_add]
    · have hd : nsec * 17179869184 + sec < 18446744073709551616 :=
        calc nsec * 17179869184 + sec < (nsec + 1) * 17179869184 := by rw [Nat.succ_mul]; exact Nat.add_lt_add_left hlt _
          _ ≤ 1000000000 * 17179869184 := Nat.mul_le_mul_right _ hn
          _ ≤ 18446744073709551616 := by decide
      simp only [h1, h2, if_true, if_false, List.cons_append, List.nil_append, pTime,
        takeN_append (be64 _) rest 8 rfl, Option.map_some, fromBe_be64 _ hd, e1, e2]
  · simp only [h1, if_false, List.cons_append, List.nil_append, List.append_assoc, pTime,
      takeN_append (be32 nsec) _ 4 rfl, takeN_append (be64 sec) rest 8 rfl, Option.map_some,
      fromBe_be32 nsec (Nat.lt_trans hn (by decide)), fromBe_be64 sec hs]

/-- Well-formedness of the values the Go types can hold. -/
def MelangeW.WF (m : MelangeW) : Prop := m.cur < 18446744073709551616 ∧ m.supp < 18446744073709551616

def TrxW.WF (t : TrxW) : Prop :=
  t.sec < 18446744073709551616 ∧ t.nsec < 1000000000 ∧ t.issuer.length < 4294967296 ∧ t.receiver.length < 4294967296 ∧
  t.subject.length < 4294967296 ∧ optLen t.data ∧ optLen t.isig ∧ optLen t.rsig ∧ t.hash.length < 4294967296 ∧ t.spice.WF

def VertexW.WF (v : VertexW) : Prop :=
  v.signer.length < 4294967296 ∧ v.sec < 18446744073709551616 ∧ v.nsec < 1000000000 ∧ optLen v.sig ∧ v.trx.WF ∧
  v.hash.length < 4294967296 ∧ v.left.length < 4294967296 ∧ v.right.length < 4294967296 ∧ v.weight < 18446744073709551616

/-- `Option.bind_some` as a rewrite step. The core lemma holds by `rfl`, so `simp` uses it without leaving a
proof, and the kernel is then left to compare `expect k (k ++ _)` with `some _` by evaluating the key strings. -/
theorem some_bind {α β : Type} (a : α) (f : α → Option β) : (some a).bind f = f a := by
  rw [Option.bind_some]

theorem pMelange_enc (m : MelangeW) (h : m.WF) (rest : Bytes) : pMelange (encMelange m ++ rest) = some (m, rest) := by
  unfold pMelange encMelange
  simp only [List.append_assoc, expect_append, pU64_enc _ h.1, pU64_enc _ h.2, Option.bind_eq_bind, some_bind]

theorem pTrx_enc (t : TrxW) (h : t.WF) (rest : Bytes) : pTrx (encTrx t ++ rest) = some (t, rest) := by
  obtain ⟨hsec, hnsec, hissuer, hreceiver, hsubject, hdata, hisig, hrsig, hhash, hspice⟩ := h
  unfold pTrx encTrx
  -- `↓`: the encoder's left-nested `++` is re-nested from the root, one step per field (bottom-up it is one per pair)
  simp only [↓List.append_assoc, expect_append, pTime_enc _ _ hsec hnsec, pStr_enc _ hissuer, pStr_enc _ hreceiver,
    pStr_enc _ hsubject, pBin_enc _ hdata, pBin_enc _ hisig, pBin_enc _ hrsig, pBin_enc _ (optLen_some _ hhash),
    pMelange_enc _ hspice, Option.bind_eq_bind, some_bind, Option.getD_some]

theorem pVertex_enc (v : VertexW) (h : v.WF) (rest : Bytes) : pVertex (encVertex v ++ rest) = some (v, rest) := by
  obtain ⟨hsigner, hsec, hnsec, hsig, htrx, hhash, hleft, hright, hweight⟩ := h
  unfold pVertex encVertex
  simp only [↓List.append_assoc, expect_append, pStr_enc _ hsigner, pTime_enc _ _ hsec hnsec, pBin_enc _ hsig,
    pTrx_enc _ htrx, pBin_enc _ (optLen_some _ hhash), pBin_enc _ (optLen_some _ hleft),
    pBin_enc _ (optLen_some _ hright), pU64_enc _ hweight, Option.bind_eq_bind, some_bind, Option.getD_some]

end CModel.Msgpack
