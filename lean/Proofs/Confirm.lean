import Proofs.Funds
import Proofs.LedgerTr
/-! C01: what "becoming a parent" requires. -/
namespace CModel.Book
open CModel CModel.Melange

/-- `v` passed `validateLeaf` in some intermediate book reached from `b` inside the same call. -/
def ValidatedIn (b : Book) (v : Vertex) : Prop :=
  ∃ bm, Steps b bm ∧ v ∈ bm.verts ∧ bm.validateLeaf v = .ok ()

theorem gvlStep_validated (b0 : Book) (st : GVL) (h : Hash) (hs : Steps b0 st.book)
    (hv : ∀ x, st.left = some x ∨ st.right = some x → ValidatedIn b0 x) (x : Vertex)
    (hx : (gvlStep st h).left = some x ∨ (gvlStep st h).right = some x) : ValidatedIn b0 x := by
  rcases gvlStep_cases st h with e | ⟨v, hm, _, ⟨_, _, e⟩ | ⟨hok, e | e⟩⟩ <;> rw [e] at hx
  · exact hv x hx
  · exact hv x hx
  · rcases hx with hx | hx
    · cases hx; exact ⟨st.book, hs, hm, hok⟩
    · exact hv x (.inr hx)
  · rcases hx with hx | hx
    · exact hv x (.inl hx)
    · cases hx; exact ⟨st.book, hs, hm, hok⟩

theorem foldl_gvlStep_validated (b0 : Book) (order : List Hash) (st : GVL) (hs : Steps b0 st.book)
    (hv : ∀ x, st.left = some x ∨ st.right = some x → ValidatedIn b0 x) :
    ∀ x, (order.foldl gvlStep st).left = some x ∨ (order.foldl gvlStep st).right = some x → ValidatedIn b0 x := by
  induction order generalizing st with
  | nil => exact hv
  | cons h t ih => exact ih _ (hs.trans (steps_gvlStep st h)) (gvlStep_validated b0 st h hs hv)

theorem getValidLeaves_validated (b : Book) (order : List Hash) (x : Vertex)
    (hx : (b.getValidLeaves order).left = some x ∨ (b.getValidLeaves order).right = some x) : ValidatedIn b x :=
  foldl_gvlStep_validated b order { book := b } (Steps.refl b) (fun x hx => by rcases hx with hx | hx <;> cases hx) x hx

theorem validateLeaf_ok_cases {b : Book} {leaf : Vertex} (h : b.validateLeaf leaf = .ok ()) :
    b.isValidWeight leaf.weight = true ∧ leaf.vok = true ∧
    (b.isRoot leaf.hash = true ∨
      ((leaf.trx.isSpice = false ∨ b.isTrusted leaf.signer = true) ∧
        b.hasVertex leaf.left = true ∧ b.hasVertex leaf.right = true) ∨
      (leaf.trx.isSpice = true ∧ b.isTrusted leaf.signer = false ∧ validateFunds b leaf = .ok ())) := by
  revert h
  fun_cases validateLeaf b leaf with
  | case1 | case2 | case4 | case5 => exact nofun  -- the four refusals
  | case3 hw hv hr => exact fun _ => ⟨by simpa using hw, by simpa using hv, .inl hr⟩
  | case6 hw hv _ hx hR hL =>
    exact fun _ => ⟨by simpa using hw, by simpa using hv,
      .inr (.inl ⟨by simpa using hx, by simpa using hL, by simpa using hR⟩)⟩
  | case7 hw hv _ hx =>
    simp only [Bool.or_eq_true, Bool.not_eq_true', not_or, Bool.not_eq_false, Bool.not_eq_true] at hx
    exact fun h => ⟨by simpa using hw, by simpa using hv, .inr (.inr ⟨hx.1, hx.2, h⟩)⟩

theorem validateLeaf_ok {b : Book} (h : FundsOK b) (leaf : Vertex) (hleaf : Canon leaf.trx.spice)
    (hr : b.validateLeaf leaf = .ok ()) :
    leaf.vok = true ∧ b.isValidWeight leaf.weight = true ∧
    (b.isRoot leaf.hash = true ∨ leaf.trx.isSpice = false ∨ b.isTrusted leaf.signer = true ∨
     outflow leaf.trx.issuer (walk b leaf) ≤ cpVal b leaf.trx.issuer + inflow leaf.trx.issuer (walk b leaf)) := by
  obtain ⟨hw, hv, hroot | ⟨hs | ht, _⟩ | ⟨_, _, hf⟩⟩ := validateLeaf_ok_cases hr
  · exact ⟨hv, hw, .inl hroot⟩
  · exact ⟨hv, hw, .inr (.inl hs)⟩
  · exact ⟨hv, hw, .inr (.inr (.inl ht))⟩
  · exact ⟨hv, hw, .inr (.inr (.inr (validateFunds_ok h leaf hleaf hf)))⟩

/-- **C01, local proposals**: a vertex created by `CreateLeaf` names as parents only tips that passed
`validateLeaf` during that very call. -/
theorem createLeafLocked_parents_validated (b : Book) (trx : Trx) (o1 o2 : List Hash) (tip v : Vertex)
    (h : (b.createLeafLocked trx o1 o2 tip).2 = .ok v) :
    ∃ l r, ValidatedIn b l ∧ ValidatedIn b r ∧ v.left = l.hash ∧ v.right = r.hash ∧
      v.weight = calcNewWeight l.weight r.weight ∧ v.signer = b.self ∧ v.trx = trx := by
  rcases createLeafLocked_cases b trx o1 o2 tip with ⟨⟨e, he⟩, _⟩ | ⟨l, r, hl, hr, bt, _, hv⟩
  · rw [he] at h; cases h
  · obtain rfl := hv v h
    refine ⟨l, r, getValidLeaves_validated b o1 l (.inl hl), ?_, bt.left, bt.right, bt.weight, bt.signer, bt.trx⟩
    cases hrr : (b.getValidLeaves o1).right with
    | none => rw [hr, hrr]; exact getValidLeaves_validated b o1 l (.inl hl)
    | some r' => rw [hr, hrr]; exact getValidLeaves_validated b o1 r' (.inr hrr)

theorem createLeaf_parents_validated (b : Book) (trx : Trx) (o1 o2 : List Hash) (tip v : Vertex)
    (h : (b.createLeaf trx o1 o2 tip).2 = .ok v) :
    ∃ l r, ValidatedIn b l ∧ ValidatedIn b r ∧ v.left = l.hash ∧ v.right = r.hash ∧
      v.weight = calcNewWeight l.weight r.weight ∧ v.signer = b.self ∧ v.trx = trx := by
  rcases createLeaf_cases b trx o1 o2 tip with ⟨e, he⟩ | ⟨_, _, he⟩ <;> rw [he] at h
  · cases h
  · exact createLeafLocked_parents_validated b trx o1 o2 tip v h

/-- `pv` was present in an intermediate book of the call, and if it was a tip there it passed `validateLeaf`
(`addLeafMemorized` does not validate a parent that already has children). -/
def CheckedIn (b : Book) (pv : Vertex) : Prop :=
  ∃ bm, Steps b bm ∧ pv ∈ bm.verts ∧ (bm.isLeaf pv.hash = true → bm.validateLeaf pv = .ok ())

theorem checkParents_checked {b0 b : Book} (hs0 : Steps b0 b) {leaf : Vertex} {rep : Nat} {hs : List Hash}
    {acc : List Vertex} {out : Book × Except Err (List Vertex)} (h : checkParents b leaf rep hs acc = out)
    {vs : List Vertex} (hok : out.2 = .ok vs) : ∀ x ∈ hs, ∃ p, CheckedIn b0 p ∧ p.hash = x := by
  -- `p` answers for `x`: validated here if it is a tip, otherwise nothing to check
  have head : ∀ {b x p}, Steps b0 b → b.getVertex x = some p → (b.isLeaf x = true → b.validateLeaf p = .ok ()) →
      ∃ p, CheckedIn b0 p ∧ p.hash = x := fun hs0 hg hv =>
    have ⟨hmem, hhash⟩ := getVertex_mem hg
    ⟨_, ⟨_, hs0, hmem, fun hl => hv (hhash ▸ hl)⟩, hhash⟩
  fun_induction checkParents b leaf rep hs acc with
  | case1 => exact List.forall_mem_nil _
  | case2 | case3 | case4 => subst h; cases hok  -- the loop ends with an error
  | case5 b x hs acc p hg _ hv ih =>  -- `x` is the tip `p`, valid: the weight window moves
    exact List.forall_mem_cons.2 ⟨head hs0 hg fun _ => hv, ih (hs0.trans (.single (.misc (coreEq_updateWT ..)))) h⟩
  | case6 b x hs acc p hg hl ih =>  -- `x` is `p`, not a tip
    exact List.forall_mem_cons.2 ⟨head hs0 hg fun hl' => absurd hl' hl, ih hs0 h⟩

/-- **C01, gossip and orphan retries**: a vertex admitted by `addLeafMemorized` had both declared
parents present, and each parent that was still a tip passed `validateLeaf` in that call. -/
theorem addLeafLocked_parents_checked (b : Book) (leaf : Vertex) (rep : Nat)
    (h : (b.addLeafLocked leaf rep).2 = .ok ()) :
    ∃ l r, CheckedIn b l ∧ CheckedIn b r ∧ l.hash = leaf.left ∧ r.hash = leaf.right := by
  rcases addLeafLocked_cases b leaf rep with ⟨_, e, _, he⟩ | ⟨b1, vs, hcp, _⟩
  · rw [he] at h; cases h
  · have hall := checkParents_checked (Steps.refl b) hcp rfl
    obtain ⟨l, hl, el⟩ := hall leaf.left (by simp)
    obtain ⟨r, hr, er⟩ := hall leaf.right (by simp)
    exact ⟨l, r, hl, hr, el, er⟩

theorem addLeafMemorized_parents_checked (b : Book) (leaf : Vertex) (rep : Nat)
    (h : (b.addLeafMemorized leaf rep).2 = .ok ()) :
    ∃ l r, CheckedIn b l ∧ CheckedIn b r ∧ l.hash = leaf.left ∧ r.hash = leaf.right := by
  rcases addLeafMemorized_cases b leaf rep with ⟨e, he, _⟩ | ⟨_, _, _, _, he⟩ <;> rw [he] at h
  · cases h
  · exact addLeafLocked_parents_checked b leaf rep h

end CModel.Book
