import Proofs.LedgerBasic
/-!
Abstract transition system refined by the operations that serve a running node: `createLeaf`, `addLeaf` and the locked
bodies (here), `retryParked`, which needs `ParkInv`, and the trusted-list toggles (in `LedgerInv`) are each a finite
sequence of `Tr` steps (`Steps`; the `steps_*` and `coreEq_*` lemmas), so an invariant is proved once per `Tr`
constructor instead of once per operation. `createGenesis` and `truncateAt` are not runs of `Tr` steps (one sets
`loaded` and `genesis`, the other writes storage); they are cases of their own in `Reachable`. `loadDag` builds a book
outside `Reachable` (`Proofs/LoadDag.lean`).
-/
namespace CModel.Book
open CModel

/-- The guards evaluated by `AddLeaf` before it calls `addLeafMemorized` (they are *not*
re-evaluated when a parked vertex is retried; the `parked` clause of `CoreEq` records that they held
when the vertex was parked). -/
def AddGuards (b : Book) (v : Vertex) : Prop :=
  b.loaded = true ∧ v.trx.issuer ≠ v.signer ∧ v.trx.isEmpty = false ∧ v.trx.spice.canonB = true

theorem AddGuards.loaded {b : Book} {v : Vertex} (g : AddGuards b v) : b.loaded = true := g.1
theorem AddGuards.notOwn {b : Book} {v : Vertex} (g : AddGuards b v) : v.trx.issuer ≠ v.signer := g.2.1
theorem AddGuards.notEmpty {b : Book} {v : Vertex} (g : AddGuards b v) : v.trx.isEmpty = false := g.2.2.1
theorem AddGuards.canon {b : Book} {v : Vertex} (g : AddGuards b v) : v.trx.spice.canonB = true := g.2.2.2

theorem AddGuards.of_loaded {b b' : Book} {v : Vertex} (h : b'.loaded = b.loaded) (g : AddGuards b v) : AddGuards b' v :=
  ⟨h ▸ g.1, g.2⟩

/-- Fields no structural invariant talks about may change freely; the orphan buffer may only
shrink or take vertices that passed the `AddLeaf` guards. -/
def CoreEq (b b' : Book) : Prop :=
  b'.verts = b.verts ∧ b'.edges = b.edges ∧ b'.index = b.index ∧ b'.cpVerts = b.cpVerts ∧
  b'.cpFunds = b.cpFunds ∧ b'.genesis = b.genesis ∧ b'.self = b.self ∧ b'.loaded = b.loaded ∧
  ∀ p ∈ b'.parked, p ∈ b.parked ∨ AddGuards b p.1

/-- what no transition changes -/
structure Frame (b b' : Book) : Prop where
  loaded : b'.loaded = b.loaded
  genesis : b'.genesis = b.genesis
  self : b'.self = b.self
  cpVerts : b'.cpVerts = b.cpVerts
  cpFunds : b'.cpFunds = b.cpFunds

theorem CoreEq.refl (b : Book) : CoreEq b b := ⟨rfl, rfl, rfl, rfl, rfl, rfl, rfl, rfl, fun _ h => Or.inl h⟩

theorem CoreEq.verts {b b' : Book} (c : CoreEq b b') : b'.verts = b.verts := c.1
theorem CoreEq.edges {b b' : Book} (c : CoreEq b b') : b'.edges = b.edges := c.2.1
theorem CoreEq.index {b b' : Book} (c : CoreEq b b') : b'.index = b.index := c.2.2.1
theorem CoreEq.frame {b b' : Book} (c : CoreEq b b') : Frame b b' := by
  obtain ⟨_, _, _, hcv, hcf, hg, hs, hl, _⟩ := c
  exact ⟨hl, hg, hs, hcv, hcf⟩
theorem CoreEq.parked {b b' : Book} (c : CoreEq b b') {p : Vertex × Nat} (hp : p ∈ b'.parked) :
    p ∈ b.parked ∨ AddGuards b p.1 := c.2.2.2.2.2.2.2.2 p hp

/-- What the guards of CreateLeaf / AddLeaf / addLeafMemorized establish about an inserted vertex. -/
structure InsertOK (b : Book) (v : Vertex) : Prop where
  loaded : b.loaded = true
  notOwn : v.trx.issuer ≠ v.signer
  notGenesis : v.trx.issuer ≠ b.genesis
  notEmpty : v.trx.isEmpty = false
  canon : v.trx.spice.canonB = true
  vok : v.vok = true
  freshV : b.hasVertex v.hash = false
  freshCp : b.cpHasVertex v.hash = false
  freshT : b.indexHas v.trx.hash = false

theorem InsertOK.live_ne {b : Book} {v : Vertex} (ok : InsertOK b v) {x : Hash} (hx : b.hasVertex x = true) : x ≠ v.hash :=
  fun e => by rw [e, ok.freshV] at hx; cases hx

inductive Tr : Book → Book → Prop
  /-- weight / throughput / parked / trusted bookkeeping -/
  | misc {b b'} : CoreEq b b' → Tr b b'
  /-- a tip that failed validation is dropped together with its index entry -/
  | drop {b} (v : Vertex) : v ∈ b.verts → b.isLeaf v.hash = true →
      Tr b ((b.deleteVertex v.hash).indexRemove v.trx.hash)
  /-- a new vertex is inserted with edges from (some of) its declared, live parents -/
  | insert {b} (v : Vertex) (es : List (Hash × Hash)) : InsertOK b v →
      (∀ e ∈ es, e.2 = v.hash ∧ (e.1 = v.left ∨ e.1 = v.right) ∧ b.hasVertex e.1 = true ∧ e.1 ≠ v.hash) →
      -- unless the left parent is the zero hash (Go's `addedHash` sentinel) both declared parents are live and linked
      (v.left ≠ 0 → (v.left, v.hash) ∈ es ∧ (v.right, v.hash) ∈ es ∧ b.hasVertex v.left = true ∧ b.hasVertex v.right = true) →
      -- a vertex whose left parent is the zero hash gets no edges at all
      (v.left = 0 → es = []) →
      Tr b { b with index := b.index ++ [(v.trx.hash, v.hash)], verts := b.verts ++ [v], edges := b.edges ++ es }
  /-- net effect of an insertion that `AddEdge` refused and its roll-back, from the book before the insertion: vertex
  and index entry are gone again, and `deleteVertex` has filtered the edges for a hash `h` that was never live. Where
  every edge joins live vertices (`EdgeInv.live`) the filter removes nothing; `Tr` does not assume that. -/
  | unlink {b} (h : Hash) : b.hasVertex h = false → Tr b { b with edges := b.edges.filter (fun e => e.1 != h && e.2 != h) }

inductive Steps : Book → Book → Prop
  | refl (b) : Steps b b
  | tail {a b c} : Steps a b → Tr b c → Steps a c

theorem Steps.trans {a b c : Book} (h1 : Steps a b) (h2 : Steps b c) : Steps a c := by
  induction h2 with
  | refl => exact h1
  | tail _ t ih => exact Steps.tail ih t

theorem Steps.single {a b : Book} (t : Tr a b) : Steps a b := Steps.tail (Steps.refl a) t

theorem Steps.lift {P : Book → Prop} (hP : ∀ {b b'}, P b → Tr b b' → P b') {b b' : Book} (h : P b) (s : Steps b b') :
    P b' := by
  induction s with
  | refl => exact h
  | tail _ t ih => exact hP ih t

theorem Tr.frame {b b' : Book} (t : Tr b b') : Frame b b' := by
  cases t with
  | misc c => exact c.frame
  | _ => exact ⟨rfl, rfl, rfl, rfl, rfl⟩

theorem Steps.frame {b b' : Book} (s : Steps b b') : Frame b b' :=
  s.lift (P := Frame b) (fun i t => ⟨t.frame.loaded.trans i.loaded, t.frame.genesis.trans i.genesis,
    t.frame.self.trans i.self, t.frame.cpVerts.trans i.cpVerts, t.frame.cpFunds.trans i.cpFunds⟩) ⟨rfl, rfl, rfl, rfl, rfl⟩

theorem Tr.mem_verts {b b' : Book} (t : Tr b b') {x : Vertex} (hx : x ∈ b'.verts) : x ∈ b.verts ∨ InsertOK b x := by
  cases t with
  | misc c => exact .inl (c.verts ▸ hx)
  | drop v _ _ => exact .inl (List.mem_filter.1 hx).1
  | insert v es ok _ _ _ =>
    rcases List.mem_append.1 hx with h | h
    · exact .inl h
    · exact .inr (List.mem_singleton.1 h ▸ ok)
  | unlink _ _ => exact .inl hx

theorem coreEq_updateWT (b : Book) (w : UInt64) : CoreEq b (b.updateWT w) := by
  unfold CoreEq; simp only [updateWT_verts, updateWT_edges, updateWT_index, updateWT_cpVerts, updateWT_cpFunds,
    updateWT_genesis, updateWT_self, updateWT_loaded, updateWT_parked, true_and]
  exact fun _ h => Or.inl h

theorem gvlStep_cases (st : GVL) (h : Hash) :
    gvlStep st h = st ∨
    ∃ v ∈ st.book.verts, st.book.isLeaf v.hash = true ∧
      ((∃ e, st.book.validateLeaf v = .error e ∧ gvlStep st h =
          { st with book := ((st.book.deleteVertex v.hash).indexRemove v.trx.hash).updateWT v.weight, err := some e }) ∨
       (st.book.validateLeaf v = .ok () ∧
          (gvlStep st h = { st with left := some v, err := none } ∨ gvlStep st h = { st with right := some v, err := none }))) := by
  fun_cases gvlStep st h with
  | case1 | case2 | case4 => exact .inl rfl  -- two tips found already, `h` not live, or not a tip
  | case3 _ v hg hl =>
    obtain ⟨hm, rfl⟩ := getVertex_mem hg
    refine .inr ⟨v, hm, hl, ?_⟩
    fun_cases visitTip st v with
    | case1 e hv => exact .inl ⟨e, hv, rfl⟩
    | case2 hv _ => exact .inr ⟨hv, .inl rfl⟩
    | case3 hv _ => exact .inr ⟨hv, .inr rfl⟩

theorem steps_gvlStep (st : GVL) (h : Hash) : Steps st.book (gvlStep st h).book := by
  rcases gvlStep_cases st h with e | ⟨v, hv, hl, ⟨_, _, e⟩ | ⟨_, e | e⟩⟩ <;> rw [e]
  · exact Steps.refl _
  · exact Steps.tail (Steps.single (Tr.drop v hv hl)) (Tr.misc (coreEq_updateWT _ _))
  · exact Steps.refl _
  · exact Steps.refl _

theorem steps_foldGvl (order : List Hash) (st : GVL) : Steps st.book (order.foldl gvlStep st).book := by
  induction order generalizing st with
  | nil => exact Steps.refl _
  | cons x xs ih => simp only [List.foldl_cons]; exact (steps_gvlStep st x).trans (ih _)

theorem steps_getValidLeaves (b : Book) (order : List Hash) : Steps b (b.getValidLeaves order).book :=
  steps_foldGvl order { book := b }

/-- Guards that the callers of `insertLinked` have established (freshness in DAG and index is
re-checked inside). -/
structure PreInsert (b : Book) (v : Vertex) : Prop where
  loaded : b.loaded = true
  notOwn : v.trx.issuer ≠ v.signer
  notGenesis : v.trx.issuer ≠ b.genesis
  notEmpty : v.trx.isEmpty = false
  canon : v.trx.spice.canonB = true
  vok : v.vok = true
  freshCp : b.cpHasVertex v.hash = false

theorem PreInsert.of_steps {b b' : Book} {v : Vertex} (pre : PreInsert b v) (s : Steps b b') : PreInsert b' v :=
  { pre with
    loaded := s.frame.loaded ▸ pre.loaded
    notGenesis := s.frame.genesis ▸ pre.notGenesis
    freshCp := (cpHasVertex_congr s.frame.cpVerts _).trans pre.freshCp }

theorem steps_insertLinked (b : Book) (v : Vertex) (pre : PreInsert b v) :
    Steps b (insertLinked b v [v.left, v.right]).1 := by
  rcases insertLinked_cases b v with ⟨_, h⟩ | ⟨_, _, h⟩ | ⟨hT, hV, h | ⟨h, hes⟩⟩ <;> rw [h]
  · exact Steps.refl _
  · exact Steps.refl _
  · exact Steps.single (Tr.unlink v.hash hV)
  · have hm := mem_edgesOf v
    refine Steps.single (Tr.insert v (edgesOf v) { pre with freshV := hV, freshT := hT } ?_ ?_ ?_)
    · intro e he
      obtain ⟨_, rfl | rfl⟩ := (hm e).1 he
      · exact ⟨rfl, .inl rfl, hes _ he⟩
      · exact ⟨rfl, .inr rfl, hes _ he⟩
    · intro hl
      have ml := (hm (v.left, v.hash)).2 ⟨hl, .inl rfl⟩
      have mr := (hm (v.right, v.hash)).2 ⟨hl, .inr rfl⟩
      exact ⟨ml, mr, (hes _ ml).1, (hes _ mr).1⟩
    · intro hl; simp [edgesOf, hl]

/-- what the locked body of `CreateLeaf` needs of the book it runs on -/
structure CreateGuards (b : Book) (trx : Trx) : Prop where
  loaded : b.loaded = true
  notEmpty : trx.isEmpty = false
  canon : trx.spice.canonB = true
  notOwn : trx.issuer ≠ b.self
  notGenesis : trx.issuer ≠ b.genesis

/-- What `createLeafLocked` checks of the vertex handed in: it is the one `CreateLeaf` builds for `trx` on the tips `l`
and `r` (time stamp, hash and signature aside), and it verifies. -/
structure BuiltOn (b : Book) (trx : Trx) (l r tip : Vertex) : Prop where
  signer : tip.signer = b.self
  trx : tip.trx = trx
  left : tip.left = l.hash
  right : tip.right = r.hash
  weight : tip.weight = calcNewWeight l.weight r.weight
  vok : tip.vok = true

theorem createLeafLocked_cases (b : Book) (trx : Trx) (o1 o2 : List Hash) (tip : Vertex) :
    ((∃ e, (b.createLeafLocked trx o1 o2 tip).2 = .error e) ∧
      ((b.createLeafLocked trx o1 o2 tip).1 = (b.getValidLeaves o1).book ∨
       (b.createLeafLocked trx o1 o2 tip).1 = ((b.getValidLeaves o1).book.getValidLeaves o2).book)) ∨
    ∃ l r, (b.getValidLeaves o1).left = some l ∧ r = (b.getValidLeaves o1).right.getD l ∧
      BuiltOn b trx l r tip ∧
      (b.createLeafLocked trx o1 o2 tip).1 = (insertLinked (b.getValidLeaves o1).book tip [tip.left, tip.right]).1 ∧
      ∀ v, (b.createLeafLocked trx o1 o2 tip).2 = .ok v → v = tip := by
  generalize h : b.createLeafLocked trx o1 o2 tip = out
  unfold createLeafLocked at h
  simp only at h
  revert h
  cases (b.getValidLeaves o1).err with
  | some e => rintro rfl; exact .inl ⟨⟨e, rfl⟩, .inl rfl⟩  -- the first pass dropped a failing tip
  | none =>
    cases hl : (b.getValidLeaves o1).left with
    | none =>  -- no valid tip: a second pass runs, and every outcome of it is an error
      cases ((b.getValidLeaves o1).book.getValidLeaves o2).err with
      | some e => rintro rfl; exact .inl ⟨⟨e, rfl⟩, .inr rfl⟩
      | none => cases ((b.getValidLeaves o1).book.getValidLeaves o2).left <;> (rintro rfl; exact .inl ⟨⟨_, rfl⟩, .inr rfl⟩)
    | some l =>
      simp only
      generalize hc : (_ != tip || !tip.vok) = c
      cases c with
      | true => rintro rfl; exact .inl ⟨⟨_, rfl⟩, .inl rfl⟩  -- the vertex handed in is not the one the code builds
      | false =>
        -- the vertex handed in is the one the code builds on `l` and `r`, and it verified
        simp only [Bool.or_eq_false_iff, bne_eq_false_iff_eq, Bool.not_eq_eq_eq_not, Bool.not_false] at hc
        obtain ⟨heqv, hvok⟩ := hc
        rw [if_neg Bool.false_ne_true,
          show [l.hash, ((b.getValidLeaves o1).right.getD l).hash] = [tip.left, tip.right] by rw [← heqv]]
        intro h
        refine .inr ⟨l, _, rfl, rfl, heqv ▸ ⟨rfl, rfl, rfl, rfl, rfl, hvok⟩, ?_⟩
        -- `insertLinked` succeeded, found the transaction indexed, or failed later
        split at h <;> subst h <;> rename_i hi <;> rw [hi]
        · exact ⟨rfl, fun v hv => by cases hv; rfl⟩
        · exact ⟨rfl, fun _ hv => nomatch hv⟩
        · exact ⟨rfl, fun _ hv => nomatch hv⟩

theorem createLeaf_cases (b : Book) (trx : Trx) (o1 o2 : List Hash) (tip : Vertex) :
    (∃ e, b.createLeaf trx o1 o2 tip = (b, .error e)) ∨
    (CreateGuards b trx ∧ b.indexHas trx.hash = false ∧
      b.createLeaf trx o1 o2 tip = b.createLeafLocked trx o1 o2 tip) := by
  fun_cases createLeaf b trx o1 o2 tip with
  | case1 | case2 | case3 | case4 | case5 | case6 => exact .inl ⟨_, rfl⟩
  | case7 h1 h2 h3 h4 h5 h6 =>
    exact .inr ⟨⟨by simpa using h1, by simpa using h2, by simpa using h3, by simpa using h4, by simpa using h5⟩,
      by simpa using h6, rfl⟩

/-- `hfresh`: the hash of the freshly sealed vertex covers a fresh time stamp; that it is not the hash of a
checkpointed vertex is collision freedom of SHA-256. The unlocked "transaction already sealed" look-up is not
needed: `insertLinked` repeats it atomically. -/
theorem steps_createLeafLocked (b : Book) (trx : Trx) (o1 o2 : List Hash) (tip : Vertex) (g : CreateGuards b trx)
    (hfresh : b.cpHasVertex tip.hash = false) : Steps b (b.createLeafLocked trx o1 o2 tip).1 := by
  have s1 := steps_getValidLeaves b o1
  rcases createLeafLocked_cases b trx o1 o2 tip with ⟨_, h | h⟩ | ⟨l, r, _, _, bt, h, _⟩ <;> rw [h]
  · exact s1
  · exact s1.trans (steps_getValidLeaves _ o2)
  · have pre : PreInsert b tip := by
      rw [← bt.trx] at g
      exact { g with notOwn := bt.signer ▸ g.notOwn, vok := bt.vok, freshCp := hfresh }
    exact s1.trans (steps_insertLinked _ tip (pre.of_steps s1))

theorem steps_createLeaf (b : Book) (trx : Trx) (o1 o2 : List Hash) (tip : Vertex)
    (hfresh : b.cpHasVertex tip.hash = false) : Steps b (b.createLeaf trx o1 o2 tip).1 := by
  rcases createLeaf_cases b trx o1 o2 tip with ⟨e, h⟩ | ⟨g, _, h⟩ <;> rw [h]
  · exact Steps.refl _
  · exact steps_createLeafLocked b trx o1 o2 tip g hfresh

theorem coreEq_park {b b' : Book} {v : Vertex} {r : Nat} (h : b.park v r = some b') (hg : AddGuards b v) :
    CoreEq b b' := by
  rw [(park_some h).1]
  refine ⟨rfl, rfl, rfl, rfl, rfl, rfl, rfl, rfl, fun p hp => ?_⟩
  rcases List.mem_append.1 hp with hp | hp
  · exact .inl hp
  · rw [List.mem_singleton.1 hp]; exact .inr hg

theorem map_hash_concat {acc : List Vertex} {p : Vertex} {x : Hash} (hs : List Hash) (h : p.hash = x) :
    (acc ++ [p]).map (·.hash) ++ hs = acc.map (·.hash) ++ x :: hs := by simp [h]

theorem checkParents_cases {b : Book} {leaf : Vertex} {rep : Nat} {hs : List Hash} {acc : List Vertex}
    {out : Book × Except Err (List Vertex)} (h : checkParents b leaf rep hs acc = out) :
    (AddGuards b leaf → Steps b out.1) ∧
    match out.2 with
    | .ok vs => vs.map (·.hash) = acc.map (·.hash) ++ hs ∧
        out.1.verts = b.verts ∧ out.1.cpVerts = b.cpVerts ∧ out.1.parked = b.parked
    | .error e =>
      (e = [.noParent] ∧ out.1.verts = b.verts ∧ out.1.cpVerts = b.cpVerts ∧
        out.1.parked = b.parked ++ [(leaf, rep + 1)] ∧ rep ≤ maxRepeats ∧ b.parked.length ≠ maxArraySize) ∨
      (∃ e', e = .leafRejected :: e' ∧ out.1.parked = b.parked) := by
  fun_induction checkParents b leaf rep hs acc with
  | case1 b acc => subst h; exact ⟨fun _ => .refl _, by simp, rfl, rfl, rfl⟩
  | case2 b x hs acc _ _ =>  -- `x` unknown and no room to park
    subst h; exact ⟨fun _ => .refl _, .inr ⟨[], rfl, rfl⟩⟩
  | case3 b x hs acc _ b' hp =>  -- `x` unknown, parked
    subst h
    refine ⟨fun g => .single (.misc (coreEq_park hp g)), ?_⟩
    obtain ⟨rfl, h1, h2⟩ := park_some hp
    exact .inl ⟨rfl, rfl, rfl, rfl, h1, h2⟩
  | case4 b x hs acc p hg hl e _ =>  -- `x` is the tip `p`, which fails validation
    subst h
    obtain ⟨hmem, hhash⟩ := getVertex_mem hg
    exact ⟨fun _ => .single (.drop p hmem (hhash ▸ hl)), .inr ⟨_, rfl, rfl⟩⟩
  | case5 b x hs acc p hg _ _ ih =>  -- `x` is the tip `p`, valid: the weight window moves
    obtain ⟨s, c⟩ := map_hash_concat hs (getVertex_mem hg).2 ▸ ih h
    rw [updateWT_verts, updateWT_cpVerts, updateWT_parked] at c
    exact ⟨fun g => (Steps.single (.misc (coreEq_updateWT ..))).trans (s (g.of_loaded (updateWT_loaded ..))), c⟩
  | case6 b x hs acc p hg _ ih =>  -- `x` is `p`, not a tip
    exact map_hash_concat hs (getVertex_mem hg).2 ▸ ih h

theorem steps_checkParents {b : Book} {leaf : Vertex} {rep : Nat} {hs : List Hash} {acc : List Vertex}
    {out : Book × Except Err (List Vertex)} (hg : AddGuards b leaf) (h : checkParents b leaf rep hs acc = out) :
    Steps b out.1 := (checkParents_cases h).1 hg

theorem addLeafLocked_cases (b : Book) (leaf : Vertex) (rep : Nat) :
    (∃ b1 e, checkParents b leaf rep [leaf.left, leaf.right] [] = (b1, .error e) ∧
      b.addLeafLocked leaf rep = (b1, .error e)) ∨
    (∃ b1 vs, checkParents b leaf rep [leaf.left, leaf.right] [] = (b1, .ok vs) ∧
      (b.addLeafLocked leaf rep).1 = (insertLinked b1 leaf [leaf.left, leaf.right]).1 ∧
      (((insertLinked b1 leaf [leaf.left, leaf.right]).2 = none ∧ (b.addLeafLocked leaf rep).2 = .ok ()) ∨
        ∃ e, (b.addLeafLocked leaf rep).2 = .error e ∧ e ∈ [[Tag.unexpected, .trxExists], [.leafRejected]])) := by
  unfold addLeafLocked
  split
  · rename_i b1 e heq; exact .inl ⟨b1, e, heq, rfl⟩  -- the parent loop ended in an error
  · rename_i b1 vs heq
    refine .inr ⟨b1, vs, heq, ?_⟩
    rw [show vs.map (·.hash) = [leaf.left, leaf.right] from (checkParents_cases heq).2.1]
    -- `insertLinked` succeeded, found the transaction indexed, or failed later
    split <;> rename_i h <;> rw [h]
    · exact ⟨rfl, .inl ⟨rfl, rfl⟩⟩
    · exact ⟨rfl, .inr ⟨_, rfl, by decide⟩⟩
    · exact ⟨rfl, .inr ⟨_, rfl, by decide⟩⟩

theorem addLeafMemorized_cases (b : Book) (leaf : Vertex) (rep : Nat) :
    (∃ e, b.addLeafMemorized leaf rep = (b, .error e) ∧
      (e = [.leafExists] ∧ b.checkVertexExists leaf.hash = true ∨
        e ∈ [[Tag.genesisIssuer], [.trxExists], [.leafRejected]])) ∨
    (leaf.trx.issuer ≠ b.genesis ∧ b.checkVertexExists leaf.hash = false ∧ b.indexHas leaf.trx.hash = false ∧
      leaf.vok = true ∧ b.addLeafMemorized leaf rep = b.addLeafLocked leaf rep) := by
  fun_cases addLeafMemorized b leaf rep with
  | case1 | case3 | case4 => exact .inl ⟨_, rfl, .inr (by decide)⟩
  | case2 _ hx => exact .inl ⟨_, rfl, .inl ⟨rfl, hx⟩⟩
  | case5 h1 h2 h3 h4 =>
    exact .inr ⟨by simpa using h1, by simpa using h2, by simpa using h3, by simpa using h4, rfl⟩

theorem addLeaf_cases (b : Book) (leaf : Vertex) :
    (∃ e, b.addLeaf leaf = (b, .error e) ∧ e ∈ [[Tag.notLoaded], [.ownNode], [.trxEmpty], [.notCanonical]]) ∨
    (AddGuards b leaf ∧ b.addLeaf leaf = b.addLeafMemorized leaf 0) := by
  fun_cases addLeaf b leaf with
  | case1 | case2 | case3 | case4 => exact .inl ⟨_, rfl, by decide⟩
  | case5 h1 h2 h3 h4 =>
    exact .inr ⟨⟨by simpa using h1, by simpa using h2, by simpa using h3, by simpa using h4⟩, rfl⟩

/-- The parent loop, then the insertion on the book the loop has left; a fresh and a stale hash differ in `hins` only. -/
theorem steps_addLeafLocked_of_insert (b : Book) (leaf : Vertex) (rep : Nat) (hg : AddGuards b leaf)
    (hins : ∀ b1, Steps b b1 → Steps b1 (insertLinked b1 leaf [leaf.left, leaf.right]).1) :
    Steps b (b.addLeafLocked leaf rep).1 := by
  rcases addLeafLocked_cases b leaf rep with ⟨b1, e, e1, h⟩ | ⟨b1, vs, e1, h, _⟩ <;> rw [h]
  · exact steps_checkParents hg e1
  · have scp : Steps b b1 := steps_checkParents hg e1
    exact scp.trans (hins b1 scp)

/-- The unlocked "vertex / transaction already known" look-ups are not needed for the live part (`insertLinked`
repeats them atomically), only that the hash is not a checkpointed one. -/
theorem steps_addLeafLocked (b : Book) (leaf : Vertex) (rep : Nat) (hg : AddGuards b leaf)
    (hgen : leaf.trx.issuer ≠ b.genesis) (hvok : leaf.vok = true) (hcp : b.cpHasVertex leaf.hash = false) :
    Steps b (b.addLeafLocked leaf rep).1 :=
  have pre : PreInsert b leaf :=
    { loaded := hg.loaded, notOwn := hg.notOwn, notGenesis := hgen, notEmpty := hg.notEmpty, canon := hg.canon,
      vok := hvok, freshCp := hcp }
  steps_addLeafLocked_of_insert b leaf rep hg fun b1 scp => steps_insertLinked b1 leaf (pre.of_steps scp)

theorem steps_addLeafMemorized (b : Book) (leaf : Vertex) (rep : Nat) (hg : AddGuards b leaf) :
    Steps b (b.addLeafMemorized leaf rep).1 := by
  rcases addLeafMemorized_cases b leaf rep with ⟨e, h, _⟩ | ⟨hgen, hex, _, hvok, h⟩ <;> rw [h]
  · exact Steps.refl _
  · simp only [checkVertexExists, Bool.or_eq_false_iff] at hex
    exact steps_addLeafLocked b leaf rep hg hgen hvok hex.2

theorem steps_addLeaf (b : Book) (leaf : Vertex) : Steps b (b.addLeaf leaf).1 := by
  rcases addLeaf_cases b leaf with ⟨e, h, _⟩ | ⟨hg, h⟩ <;> rw [h]
  · exact Steps.refl _
  · exact steps_addLeafMemorized b leaf 0 hg

theorem retryParked_cases (b : Book) :
    (b.parked = [] ∧ b.retryParked = (b, none)) ∨
    ∃ v rep rest, b.parked = (v, rep) :: rest ∧
      b.retryParked = ((({ b with parked := rest } : Book).addLeafMemorized v rep).1,
                       some (v, (({ b with parked := rest } : Book).addLeafMemorized v rep).2)) := by
  fun_cases retryParked b with
  | case1 hq => exact .inl ⟨hq, rfl⟩
  | case2 v rep rest hq b' r e => exact .inr ⟨v, rep, rest, hq, by rw [e]⟩

end CModel.Book
