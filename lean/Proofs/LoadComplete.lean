import Proofs.LoadDag
import Proofs.BfsComplete
/-! C14: what a fresh node makes of a well-formed set of vertices (`loadDag_wellformed`). That the vertices of a
reachable, untruncated ledger are such a set is `Props.C14.honest_load_reproduces_ledger`. -/
namespace CModel.Book
open CModel

theorem foldl_loadIns_all (vs : List Vertex) (b : Book)
    (hv : ((b.verts ++ vs).map (·.hash)).Nodup) (ht : (b.index.map (·.1) ++ vs.map (·.trx.hash)).Nodup) :
    vs.foldl loadIns (b, none) =
      ({ b with verts := b.verts ++ vs, index := b.index ++ vs.map fun v => (v.trx.hash, v.hash) }, none) := by
  induction vs generalizing b with
  | nil => simp
  | cons v vs ih =>
    have hfreshT : b.indexHas v.trx.hash = false := Bool.eq_false_iff.2 fun h => by
      obtain ⟨x, hx⟩ := (indexHas_iff _ _).1 h
      exact (List.nodup_append.1 ht).2.2 _ (List.mem_map.2 ⟨_, hx, rfl⟩) _ List.mem_cons_self rfl
    have hfreshV : b.hasVertex v.hash = false := Bool.eq_false_iff.2 fun h => by
      obtain ⟨x, hx, hxe⟩ := (hasVertex_iff b v.hash).1 h
      exact (List.nodup_append.1 (List.map_append ▸ hv)).2.2 _ (List.mem_map.2 ⟨x, hx, rfl⟩) _ List.mem_cons_self hxe
    rw [List.append_cons] at hv
    rw [List.map_cons, List.append_cons] at ht
    rw [List.foldl_cons, loadIns_fresh hfreshT hfreshV, ih _ hv (by rw [List.map_append]; exact ht)]
    simp only [List.append_assoc, List.singleton_append, List.map_cons]

theorem addEdge_ok (b : Book) (rank : Hash → Nat) (hr : ∀ e ∈ b.edges, rank e.1 < rank e.2) (p v : Hash)
    (hp : b.hasVertex p = true) (hv : b.hasVertex v = true) (hpv : rank p < rank v) (hnew : (p, v) ∉ b.edges) :
    b.addEdge p v = some { b with edges := b.edges ++ [(p, v)] } := by
  have hne : p ≠ v := fun e => Nat.lt_irrefl _ (e ▸ hpv)
  simp [addEdge, hp, hv, hne, hnew, reaches_false_of_rank b rank hr p v hpv]

theorem foldlM_addEdge_ok (rank : Hash → Nat) (es : List (Hash × Hash)) (b : Book)
    (hr : ∀ e ∈ b.edges ++ es, rank e.1 < rank e.2) (hnd : (b.edges ++ es).Nodup)
    (hlive : ∀ e ∈ es, b.hasVertex e.1 = true ∧ b.hasVertex e.2 = true) :
    es.foldlM (fun b e => b.addEdge e.1 e.2) b = some { b with edges := b.edges ++ es } := by
  induction es generalizing b with
  | nil => simp
  | cons e es ih =>
    have hnew : e ∉ b.edges := fun hm => (List.nodup_append.1 hnd).2.2 e hm e List.mem_cons_self rfl
    rw [List.foldlM_cons, addEdge_ok b rank (fun x hx => hr x (List.mem_append_left _ hx)) e.1 e.2
      (hlive e List.mem_cons_self).1 (hlive e List.mem_cons_self).2 (hr e (List.mem_append_right _ List.mem_cons_self)) hnew]
    rw [List.append_cons] at hr hnd
    simp only [Option.bind_eq_bind, Option.bind_some]
    rw [ih { b with edges := b.edges ++ [(e.1, e.2)] } hr hnd fun x hx => hlive x (List.mem_cons_of_mem _ hx)]
    simp only [List.append_assoc, List.singleton_append]

theorem foldl_loadLnk_ok (scan : List Vertex) (b b' : Book) (seen : Bool)
    (hguard : ∀ v ∈ scan, v.trx.isEmpty = false ∧ v.trx.spice.canonB = true)
    (hseen : seen = true → ∀ v ∈ scan, isSelf v = false)
    (hone : scan.Pairwise fun v w => isSelf v = true → isSelf w = false)
    (hlink : (scan.flatMap edgesOf).foldlM (fun b e => b.addEdge e.1 e.2) b = some b') :
    ∃ s, scan.foldl loadLnk (b, seen, none) = (b', s, none) := by
  induction scan generalizing b seen with
  | nil => cases hlink; exact ⟨seen, rfl⟩
  | cons v scan ih =>
    rw [List.flatMap_cons, List.foldlM_append] at hlink
    cases h1 : (edgesOf v).foldlM (fun b e => b.addEdge e.1 e.2) b with
    | none => rw [h1] at hlink; cases hlink
    | some b1 =>
      rw [h1] at hlink
      obtain ⟨hne, hcan⟩ := hguard v List.mem_cons_self
      obtain ⟨hv, hone⟩ := List.pairwise_cons.1 hone
      have hs : (isSelf v && seen) = false := Bool.eq_false_iff.2 fun h => by
        obtain ⟨h1, h2⟩ := Bool.and_eq_true_iff.1 h
        rw [hseen h2 v List.mem_cons_self] at h1; cases h1
      rw [List.foldl_cons, loadLnk_ok hs hne hcan ((linkNew_pair_eq b v).trans h1)]
      -- a self-sealed vertex seen by now came before `v` or is `v`
      exact ih b1 (seen || isSelf v) (fun w hw => hguard w (List.mem_cons_of_mem _ hw))
        (fun hs' w hw => (Bool.or_eq_true_iff.1 hs').elim (fun h => hseen h w (List.mem_cons_of_mem _ hw)) (hv w hw))
        hone hlink

theorem isRoot_iff (b : Book) (h : Hash) : b.isRoot h = true ↔ ∀ e ∈ b.edges, e.2 ≠ h := by
  simp only [isRoot, Bool.not_eq_eq_eq_not, Bool.not_true, List.any_eq_false, beq_iff_eq]

/-- A fresh node loads any closed, acyclic set of vertices with distinct hashes and transactions that passes the loader's
own guards, whatever the order of arrival and of scanning, into exactly these vertices, one index entry each, and the
links they declare. -/
theorem loadDag_wellformed (dst : Book) (hd1 : dst.verts = []) (hd2 : dst.edges = []) (hd3 : dst.index = [])
    (hd4 : dst.loaded = false) (stream scan : List Vertex) (hp : scan.Perm stream)
    (hndV : (stream.map (·.hash)).Nodup) (hndT : (stream.map (·.trx.hash)).Nodup) (rank : Hash → Nat)
    (hrank : ∀ v ∈ stream, ∀ e ∈ edgesOf v, rank e.1 < rank e.2)
    (hclosed : ∀ v ∈ stream, ∀ e ∈ edgesOf v, ∃ p ∈ stream, p.hash = e.1)
    (hguard : ∀ v ∈ stream, v.trx.isEmpty = false ∧ v.trx.spice.canonB = true)
    (hone : ∀ v ∈ stream, ∀ w ∈ stream, v.trx.issuer = v.signer → w.trx.issuer = w.signer → v = w)
    (root : Vertex) (hroot : root ∈ stream) (hrootBare : ∀ v ∈ stream, ∀ e ∈ edgesOf v, e.2 ≠ root.hash) :
    ∃ w, dst.loadDag stream scan (some root) =
      ({ dst with genesis := root.trx.issuer, loaded := true, verts := stream,
                  index := stream.map fun v => (v.trx.hash, v.hash), edges := scan.flatMap edgesOf,
                  weight := w, throughput := initialThroughput }, .ok ()) := by
  have hndS : (scan.map (·.hash)).Nodup := (hp.map _).nodup_iff.2 hndV
  -- insertion phase: every vertex goes in
  have p1 := foldl_loadIns_all stream dst (by rw [hd1]; exact hndV) (by rw [hd3]; exact hndT)
  rw [hd1, hd3, List.nil_append, List.nil_append] at p1
  generalize hb1 : ({ dst with verts := stream, index := stream.map fun v => (v.trx.hash, v.hash) } : Book) = b1 at p1
  have e1 : b1.edges = [] := by rw [← hb1]; exact hd2
  have live : ∀ v ∈ stream, b1.hasVertex v.hash = true := fun v hv => (hasVertex_iff _ _).2 ⟨v, by rw [← hb1]; exact hv, rfl⟩
  -- linking phase: every edge there will be is declared by a vertex of the stream; so the edges go up in rank, join
  -- inserted vertices and are distinct (edges of different vertices end in different hashes), and every one is accepted
  have src : ∀ e ∈ b1.edges ++ scan.flatMap edgesOf, ∃ v ∈ stream, e ∈ edgesOf v := fun e he => by
    rw [e1, List.nil_append] at he
    obtain ⟨v, hv, hve⟩ := List.mem_flatMap.1 he
    exact ⟨v, hp.mem_iff.1 hv, hve⟩
  have hup : ∀ e ∈ b1.edges ++ scan.flatMap edgesOf, rank e.1 < rank e.2 := fun e he =>
    let ⟨v, hv, hve⟩ := src e he
    hrank v hv e hve
  have hnd : (b1.edges ++ scan.flatMap edgesOf).Nodup := by
    rw [e1, List.nil_append]
    exact List.pairwise_flatMap.2 ⟨fun v _ => nodup_edgesOf v, (List.pairwise_map.1 hndS).imp fun hne x hx y hy e =>
      hne (by rw [← snd_of_mem_edgesOf hx, ← snd_of_mem_edgesOf hy, e])⟩
  have hends : ∀ e ∈ scan.flatMap edgesOf, b1.hasVertex e.1 = true ∧ b1.hasVertex e.2 = true := fun e he => by
    obtain ⟨v, hv, hve⟩ := src e (List.mem_append_right _ he)
    obtain ⟨p, hp, hpe⟩ := hclosed v hv e hve
    exact ⟨hpe ▸ live p hp, snd_of_mem_edgesOf hve ▸ live v hv⟩
  -- at most one vertex is self-sealed, so the loader never meets a second one
  have hself : scan.Pairwise fun v w => isSelf v = true → isSelf w = false :=
    (List.pairwise_map.1 hndS).imp_of_mem fun hv hw hne sv => Bool.eq_false_iff.2 fun sw =>
      hne (congrArg (·.hash) (hone _ (hp.mem_iff.1 hv) _ (hp.mem_iff.1 hw) ((isSelf_iff _).1 sv) ((isSelf_iff _).1 sw)))
  obtain ⟨sfin, p2⟩ := foldl_loadLnk_ok scan b1 _ false (fun v hv => hguard v (hp.mem_iff.1 hv)) nofun hself
    (foldlM_addEdge_ok rank (scan.flatMap edgesOf) b1 hup hnd hends)
  -- the root given is one: no edge ends in it
  have hr : ({ b1 with edges := b1.edges ++ scan.flatMap edgesOf } : Book).roots.any (·.hash == root.hash) = true :=
    List.any_eq_true.2 ⟨root, List.mem_filter.2 ⟨by rw [← hb1]; exact hroot, (isRoot_iff _ _).2 fun e he =>
      let ⟨v, hv, hve⟩ := src e he
      hrootBare v hv e hve⟩, beq_iff_eq.2 rfl⟩
  obtain ⟨w, h⟩ := loadDag_of_folds hd4 p1 p2 hr
  exact ⟨w, by rw [h, e1, ← hb1]; rfl⟩

end CModel.Book
