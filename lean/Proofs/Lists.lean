/-! Facts about `List` that core Lean does not provide. -/
namespace CModel

theorem filter_append_singleton {α} (p : α → Bool) (l : List α) (a : α) (hl : ∀ x ∈ l, p x = true) (ha : p a = false) :
    (l ++ [a]).filter p = l := by
  rw [List.filter_append, List.filter_eq_self.2 hl]; simp [ha]

theorem nodup_of_nodup_map {α β} (f : α → β) {l : List α} (h : (l.map f).Nodup) : l.Nodup :=
  List.Pairwise.of_map f (fun _ _ hne e => hne (congrArg f e)) h

theorem nodup_map_inj {α β} {f : α → β} {l : List α} (h : (l.map f).Nodup) {x y : α}
    (hx : x ∈ l) (hy : y ∈ l) (hf : f x = f y) : x = y :=
  -- `f a ≠ f b` for `a` before `b` in `l`: so `f a = f b → a = b` holds, for an empty reason, of `a` before `b` and of
  -- `b` before `a`, and by `rfl` of `a` with itself; that covers any two members
  have hp : l.Pairwise fun a b => f a ≠ f b := List.pairwise_map.1 h
  List.Pairwise.forall_of_forall_of_flip (R := fun a b => f a = f b → a = b) (fun _ _ _ => rfl)
    (hp.imp fun hne e => absurd e hne) (hp.imp fun hne e => absurd e.symm hne) hx hy hf

theorem nodup_map_cons {α β} {f : α → β} {l : List α} {t : α} (hn : (l.map f).Nodup) (hf : ∀ x ∈ l, f x ≠ f t) :
    ((t :: l).map f).Nodup :=
  List.nodup_cons.2 ⟨fun hm => let ⟨x, hx, he⟩ := List.mem_map.1 hm; hf x hx he, hn⟩

theorem nodup_map_concat {α β} {f : α → β} {l : List α} {t : α} (hn : (l.map f).Nodup) (hf : ∀ x ∈ l, f x ≠ f t) :
    ((l ++ [t]).map f).Nodup := by
  rw [List.map_append, List.nodup_append]
  refine ⟨hn, by simp, fun a ha b hb => ?_⟩
  obtain ⟨x, hx, he⟩ := List.mem_map.1 ha
  rw [List.mem_singleton.1 hb, ← he]
  exact hf x hx

theorem find?_of_nodup_map {α β} [BEq β] [LawfulBEq β] {f : α → β} {l : List α} (h : (l.map f).Nodup) {v : α}
    (hv : v ∈ l) : l.find? (fun x => f x == f v) = some v := by
  cases hf : l.find? (fun x => f x == f v) with
  | none => simpa using List.find?_eq_none.1 hf v hv
  | some x => rw [nodup_map_inj h (List.mem_of_find?_eq_some hf) hv (by simpa using List.find?_some hf)]

theorem nodup_filterMap_inj {α β} (f : α → Option β) (l : List α) (hn : l.Nodup)
    (hinj : ∀ a a' v, f a = some v → f a' = some v → a = a') : (l.filterMap f).Nodup :=
  List.Pairwise.filterMap (S := (· ≠ ·)) f (fun _ _ hne _ hb _ hb' e => hne (hinj _ _ _ hb (e ▸ hb'))) hn

theorem le_sum_of_mem {l : List Nat} {n : Nat} (h : n ∈ l) : n ≤ l.sum := by
  induction l with
  | nil => cases h
  | cons a l ih =>
    rw [List.sum_cons]
    rcases List.mem_cons.1 h with rfl | h
    · exact Nat.le_add_right ..
    · exact Nat.le_trans (ih h) (Nat.le_add_left ..)

theorem sum_map_add {α} (l : List α) (f g : α → Nat) :
    (l.map (fun a => f a + g a)).sum = (l.map f).sum + (l.map g).sum := by
  induction l with
  | nil => rfl
  | cons x xs ih => simp only [List.map_cons, List.sum_cons, ih]; exact Nat.add_add_add_comm ..

theorem sum_indicator {α} [DecidableEq α] (l : List α) (hn : l.Nodup) (x : α) (c : Nat) :
    (l.map (fun a => if x == a then c else 0)).sum = if x ∈ l then c else 0 := by
  induction l with
  | nil => rfl
  | cons a as ih =>
    obtain ⟨ha, hn⟩ := List.nodup_cons.1 hn
    rw [List.map_cons, List.sum_cons, ih hn]
    by_cases hxa : x = a
    · subst hxa; simp [ha]
    · simp [hxa]

theorem foldl_keeps {α σ γ} (f : σ → α → σ) (g : σ → γ) (hf : ∀ s a, g (f s a) = g s) (l : List α) (s : σ) :
    g (l.foldl f s) = g s := by
  induction l generalizing s with
  | nil => rfl
  | cons a l ih => rw [List.foldl_cons, ih, hf]

theorem foldl_absorbing {α σ} (f : σ → α → σ) (P : σ → Prop) (keep : ∀ s a, P s → P (f s a)) {v : α}
    (hit : ∀ s, P (f s v)) {l : List α} (hv : v ∈ l) (s : σ) : P (l.foldl f s) := by
  obtain ⟨l1, l2, rfl⟩ := List.append_of_mem hv
  rw [List.foldl_append, List.foldl_cons]
  exact List.foldlRecOn l2 f (hit _) fun s hs a _ => keep s a hs

end CModel
