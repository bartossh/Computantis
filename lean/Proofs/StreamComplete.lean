import Proofs.BfsComplete
import Proofs.Funds
/-! C14 / C06: StreamDAG emits every live vertex exactly once; with a single tip the balance walk covers the
whole live ledger. -/
namespace CModel.Book
open CModel

theorem leaf_not_anc (b : Book) (l : Hash) (hl : b.isLeaf l = true) (h : Hash) : ¬ Anc b.edges l h := by
  intro a
  have hc : ∃ c, (l, c) ∈ b.edges := by
    cases a with
    | base he => exact ⟨_, he⟩
    | step he _ => exact ⟨_, he⟩
  rw [(isLeaf_eq_false b l).2 hc] at hl; cases hl

theorem exists_leaf_above (b : Book) (he : EdgeInv b) (v : Vertex) (hv : v ∈ b.verts) :
    ∃ t ∈ b.verts, b.isLeaf t.hash = true ∧ (t.hash = v.hash ∨ Anc b.edges v.hash t.hash) := by
  obtain ⟨rank, hrank⟩ := he.acyclic
  obtain ⟨B, hB⟩ := rank_bound b rank
  -- induction on a bound `n` for the distance from the rank of `x` up to `B`
  suffices key : ∀ n x, b.hasVertex x = true → B ≤ rank x + n →
      ∃ t ∈ b.verts, b.isLeaf t.hash = true ∧ (t.hash = x ∨ Anc b.edges x t.hash) from
    key B _ ((hasVertex_iff b _).2 ⟨v, hv, rfl⟩) (Nat.le_add_left ..)
  intro n
  induction n with
  | zero => exact fun x hx hle => absurd (hB x hx) (Nat.not_lt.2 hle)
  | succ n ih =>
    intro x hx hle
    cases hl : b.isLeaf x with
    | true =>
      obtain ⟨w, hw, rfl⟩ := (hasVertex_iff b x).1 hx
      exact ⟨w, hw, hl, .inl rfl⟩
    | false =>
      -- not a tip: step to a child, whose rank is higher
      obtain ⟨c, hem⟩ := (isLeaf_eq_false b x).1 hl
      have hr : rank x < rank c := hrank _ hem
      obtain ⟨t, ht, htl, hreach⟩ := ih c (he.live _ hem).2.1 (by omega)
      exact ⟨t, ht, htl, .inr (hreach.elim (fun h1 => h1 ▸ .base hem) (.step hem))⟩

/-- the fold step of `streamDag`, on the pair (hashes emitted, hashes seen as ancestors) -/
def streamStep (b : Book) (st : List Hash × List Hash) (l : Vertex) : List Hash × List Hash :=
  let anc := (b.ancestors l.hash).filter (!st.2.contains ·)
  (st.1 ++ [l.hash] ++ anc, st.2 ++ anc)

theorem streamDag_eq (b : Book) (order : List Vertex) :
    b.streamDag order = visited b (order.foldl (streamStep b) ([], [])).1 := rfl

/-- After the tips `done`: the strict ancestors of those tips have been seen, each once, and emitted, together with
the tips themselves. -/
structure StreamInv (b : Book) (done : List Vertex) (out seen : List Hash) : Prop where
  perm : out.Perm (done.map (·.hash) ++ seen)
  nodupSeen : seen.Nodup
  memSeen : ∀ x, x ∈ seen ↔ ∃ t ∈ done, Anc b.edges x t.hash

theorem StreamInv.step {b : Book} (hlive : ∀ e ∈ b.edges, b.hasVertex e.1 = true) {done : List Vertex}
    {st : List Hash × List Hash} (inv : StreamInv b done st.1 st.2) (l : Vertex) :
    StreamInv b (done ++ [l]) (streamStep b st l).1 (streamStep b st l).2 := by
  have hanc : ∀ x, x ∈ (b.ancestors l.hash).filter (!st.2.contains ·) ↔ (Anc b.edges x l.hash ∧ x ∉ st.2) := fun x => by
    rw [List.mem_filter, mem_ancestors_iff b hlive, Bool.not_eq_true', List.contains_eq_mem, decide_eq_false_iff_not]
  refine ⟨?_, ?_, fun x => ?_⟩
  · -- the new tip's hash moves in front of the hashes seen
    refine ((inv.perm.append_right _).append_right _).trans ?_
    simp only [streamStep, List.map_append, List.map_cons, List.map_nil, List.append_assoc, List.singleton_append]
    exact List.perm_middle.append_left _
  · exact List.nodup_append.2 ⟨inv.nodupSeen, List.filter_sublist.nodup (ancestors_nodup b l.hash),
      fun a ha c hc e => ((hanc c).1 hc).2 (e ▸ ha)⟩
  · simp only [streamStep, List.mem_append, List.mem_singleton, hanc]
    constructor
    · rintro (hx | ⟨ha, _⟩)
      · obtain ⟨t, ht, ha⟩ := (inv.memSeen x).1 hx
        exact ⟨t, .inl ht, ha⟩
      · exact ⟨l, .inr rfl, ha⟩
    · rintro ⟨t, ht | rfl, ha⟩
      · exact .inl ((inv.memSeen x).2 ⟨t, ht, ha⟩)
      · exact Decidable.or_iff_not_imp_left.2 fun hn => ⟨ha, hn⟩

theorem StreamInv.foldl {b : Book} (hlive : ∀ e ∈ b.edges, b.hasVertex e.1 = true) (order : List Vertex) {done : List Vertex}
    {st : List Hash × List Hash} (inv : StreamInv b done st.1 st.2) :
    StreamInv b (done ++ order) (order.foldl (streamStep b) st).1 (order.foldl (streamStep b) st).2 := by
  induction order generalizing done st with
  | nil => rw [List.append_nil]; exact inv
  | cons l order ih => rw [List.foldl_cons, List.append_cons]; exact ih (inv.step hlive l)

theorem streamDag_perm (b : Book) (he : EdgeInv b) (hnd : (b.verts.map (·.hash)).Nodup)
    (order : List Vertex) (ho : order.Perm b.leaves) : (b.streamDag order).Perm b.verts := by
  have hleafMem : ∀ t, t ∈ order ↔ (t ∈ b.verts ∧ b.isLeaf t.hash = true) := fun t => by
    rw [ho.mem_iff, leaves, List.mem_filter]
  have inv := StreamInv.foldl (fun e hm => (he.live e hm).1) order (done := []) (st := ([], []))
    ⟨.refl _, List.nodup_nil, fun x => by simp⟩
  rw [List.nil_append] at inv
  rw [streamDag_eq]
  generalize (order.foldl (streamStep b) ([], [])).1 = S, (order.foldl (streamStep b) ([], [])).2 = V at inv
  -- a tip is nobody's ancestor, so the tips' hashes and the hashes seen are disjoint
  have hSnd : S.Nodup := inv.perm.nodup_iff.2 (List.nodup_append.2
    ⟨(ho.map _).nodup_iff.2 ((List.filter_sublist.map _).nodup hnd), inv.nodupSeen, fun a ha c hc e => by
      obtain ⟨t, ht, rfl⟩ := List.mem_map.1 ha
      obtain ⟨_, _, hanc⟩ := (inv.memSeen c).1 hc
      exact leaf_not_anc b t.hash ((hleafMem t).1 ht).2 _ (e ▸ hanc)⟩)
  -- every live vertex is a tip or an ancestor of one
  have hSmem : ∀ v ∈ b.verts, v.hash ∈ S := fun v hv => by
    obtain ⟨t, ht, htl, hr⟩ := exists_leaf_above b he v hv
    have hto : t ∈ order := (hleafMem t).2 ⟨ht, htl⟩
    refine inv.perm.mem_iff.2 (List.mem_append.2 (hr.elim (fun h1 => .inl ?_) fun h1 => .inr ?_))
    · exact List.mem_map.2 ⟨t, hto, h1⟩
    · exact (inv.memSeen _).2 ⟨t, hto, h1⟩
  exact (List.perm_ext_iff_of_nodup (visited_nodup b hSnd) (nodup_of_nodup_map (·.hash) hnd)).2 fun v =>
    (mem_visited hnd).trans ⟨And.left, fun hv => ⟨hv, hSmem v hv⟩⟩

theorem walk_perm_of_single_tip (b : Book) (he : EdgeInv b) (hnd : (b.verts.map (·.hash)).Nodup)
    (tip : Vertex) (ht : tip ∈ b.verts) (hl : b.leaves = [tip]) : (walk b tip).Perm b.verts := by
  have e : b.streamDag [tip] = walk b tip := by
    simp only [streamDag_eq, streamStep, walk, visited, List.foldl_cons, List.foldl_nil, List.nil_append,
      List.contains_nil, Bool.not_false, List.singleton_append, List.filterMap_cons, getVertex_of_mem hnd ht]
    congr 2
    exact List.filter_eq_self.2 fun _ _ => rfl
  exact e ▸ streamDag_perm b he hnd [tip] (by rw [hl])

end CModel.Book
