import CModel.AwaitCache
import Proofs.Lists
/-! C17: sequential refinement lemmas for the awaiting-transaction index.

The token lists are observed only through `Store.Lists s a h` ("`h` is a token of the list stored for
`a`"); every operation is characterised by what it does to `getTrx` and to `Lists`, and the invariant
`IdxInv` is stated and carried in those terms. -/
namespace CModel.AwaitCache
open Store

/-! both halves of the key→value store are association lists read by `find?` and written by filtering the key out -/

theorem get_del {κ β : Type} [BEq κ] [LawfulBEq κ] [DecidableEq κ] (l : List (κ × β)) (a b : κ) :
    ((l.filter (·.1 != a)).find? (·.1 == b)).map (·.2) = if b = a then none else (l.find? (·.1 == b)).map (·.2) := by
  rw [List.find?_filter]
  split
  · subst b; rw [List.find?_eq_none.2 fun x _ => by simp]; rfl
  · rename_i h
    congr 2; funext x
    by_cases hx : x.1 = b
    · simp [hx, h]
    · simp [hx]

theorem get_set {κ β : Type} [BEq κ] [LawfulBEq κ] [DecidableEq κ] (l : List (κ × β)) (a b : κ) (v : β) :
    (((a, v) :: l.filter (·.1 != a)).find? (·.1 == b)).map (·.2) = if b = a then some v else (l.find? (·.1 == b)).map (·.2) := by
  by_cases h : b = a
  · rw [if_pos h, List.find?_cons_of_pos (by simp [h])]; rfl
  · rw [if_neg h, List.find?_cons_of_neg (by simpa using Ne.symm h), get_del, if_neg h]

theorem getList_setList (s : Store) (a b : Addr) (v : Tokens) :
    (s.setList a v).getList b = if b = a then some v else s.getList b := get_set s.lists a b v
theorem getList_delList (s : Store) (a b : Addr) :
    (s.delList a).getList b = if b = a then none else s.getList b := get_del s.lists a b
theorem getTrx_setTrx (s : Store) (h k : Hash) (t : ATrx) :
    (s.setTrx h t).getTrx k = if k = h then some t else s.getTrx k := get_set s.trxs h k t
theorem getTrx_delTrx (s : Store) (h k : Hash) :
    (s.delTrx h).getTrx k = if k = h then none else s.getTrx k := get_del s.trxs h k

theorem getList_setTrx (s : Store) (h : Hash) (t : ATrx) (a : Addr) : (s.setTrx h t).getList a = s.getList a := rfl
theorem getList_delTrx (s : Store) (h : Hash) (a : Addr) : (s.delTrx h).getList a = s.getList a := rfl
theorem getTrx_setList (s : Store) (a : Addr) (v : Tokens) (h : Hash) : (s.setList a v).getTrx h = s.getTrx h := rfl
theorem getTrx_delList (s : Store) (a : Addr) (h : Hash) : (s.delList a).getTrx h = s.getTrx h := rfl

theorem mem_tAdd {v : Tokens} {h x : Hash} : some x ∈ tAdd v h ↔ x = h ∨ some x ∈ v := by
  unfold tAdd
  split
  · rename_i hv; rw [beq_iff_eq.1 hv]; simp
  · simp [or_comm]

theorem mem_tRemove {v : Tokens} {h x : Hash} : some x ∈ tRemove v h ↔ x ≠ h ∧ some x ∈ v := by
  simp [tRemove, and_comm]

theorem mem_tRead {v : Tokens} {h : Hash} : h ∈ tRead v ↔ some h ∈ v := by
  simp [tRead]

def Store.Lists (s : Store) (a : Addr) (h : Hash) : Prop := ∃ v, s.getList a = some v ∧ some h ∈ v

theorem Store.Lists.of_get {s : Store} {a : Addr} {v : Tokens} (hv : s.getList a = some v) (h : Hash) :
    s.Lists a h ↔ some h ∈ v := by
  simp [Lists, hv]

theorem not_lists_of_empty {s : Store} {a : Addr} {v : Tokens} (hv : s.getList a = some v) (he : (v == [none]) = true)
    (h : Hash) : ¬ s.Lists a h := by
  rw [Lists.of_get hv, beq_iff_eq.1 he]; simp

theorem lists_setList (s : Store) (a b : Addr) (v : Tokens) (x : Hash) :
    (s.setList a v).Lists b x ↔ (b = a ∧ some x ∈ v) ∨ (b ≠ a ∧ s.Lists b x) := by
  unfold Lists; rw [getList_setList]
  by_cases hb : b = a <;> simp [hb]

theorem lists_delList (s : Store) (a b : Addr) (x : Hash) : (s.delList a).Lists b x ↔ b ≠ a ∧ s.Lists b x := by
  unfold Lists; rw [getList_delList]
  by_cases hb : b = a <;> simp [hb]

theorem lists_setTrx (s : Store) (h : Hash) (t : ATrx) (a : Addr) (x : Hash) : (s.setTrx h t).Lists a x ↔ s.Lists a x := by
  unfold Lists; rw [getList_setTrx]

theorem lists_delTrx (s : Store) (h : Hash) (a : Addr) (x : Hash) : (s.delTrx h).Lists a x ↔ s.Lists a x := by
  unfold Lists; rw [getList_delTrx]

theorem lists_saveAddr (s : Store) (a b : Addr) (h x : Hash) :
    (saveAddr s a h).Lists b x ↔ (b = a ∧ x = h) ∨ s.Lists b x := by
  fun_cases saveAddr s a h with
  | case1 hg =>
    rw [lists_setList]
    by_cases hb : b = a
    · subst hb; simp [Lists, hg]
    · simp [hb]
  | case2 v hg =>
    rw [lists_setList]
    by_cases hb : b = a
    · subst hb; simp [mem_tAdd, Lists.of_get hg]
    · simp [hb]

theorem lists_removeAddr (s : Store) (a b : Addr) (h x : Hash) :
    (removeAddr s a h).Lists b x ↔ s.Lists b x ∧ ¬ (b = a ∧ x = h) := by
  fun_cases removeAddr s a h with
  | case1 hg =>
    by_cases hb : b = a
    · subst hb; simp [Lists, hg]
    · simp [hb]
  | case2 v hg he =>
    rw [lists_delList]
    by_cases hb : b = a
    · subst hb; simp [not_lists_of_empty hg he]
    · simp [hb]
  | case3 v hg he =>
    rw [lists_setList]
    by_cases hb : b = a
    · subst hb; simp [mem_tRemove, Lists.of_get hg, and_comm]
    · simp [hb]
theorem trxs_saveAddr (s : Store) (a : Addr) (h : Hash) : (saveAddr s a h).trxs = s.trxs := by
  fun_cases saveAddr s a h <;> rfl

theorem trxs_removeAddr (s : Store) (a : Addr) (h : Hash) : (removeAddr s a h).trxs = s.trxs := by
  fun_cases removeAddr s a h <;> rfl

theorem getTrx_congr {s s' : Store} (h : s'.trxs = s.trxs) (k : Hash) : s'.getTrx k = s.getTrx k := by
  unfold getTrx; rw [h]

theorem lists_foldl_saveAddr (as : List Addr) (h : Hash) (s : Store) (b : Addr) (x : Hash) :
    (as.foldl (fun s a => saveAddr s a h) s).Lists b x ↔ (b ∈ as ∧ x = h) ∨ s.Lists b x := by
  induction as generalizing s with
  | nil => simp
  | cons a as ih => rw [List.foldl_cons, ih, lists_saveAddr, List.mem_cons]; simp only [or_and_right, or_assoc, or_left_comm]

theorem lists_foldl_removeAddr (as : List Addr) (h : Hash) (s : Store) (b : Addr) (x : Hash) :
    (as.foldl (fun s a => removeAddr s a h) s).Lists b x ↔ s.Lists b x ∧ ¬ (b ∈ as ∧ x = h) := by
  induction as generalizing s with
  | nil => simp
  | cons a as ih => rw [List.foldl_cons, ih, lists_removeAddr, List.mem_cons]; simp only [or_and_right, not_or, and_assoc, and_left_comm]

theorem save_exists_noop (s : Store) (t x : ATrx) (h : s.getTrx t.hash = some x) : s.save t = (s, some .exists) := by
  unfold save; rw [h]

theorem save_fresh {s : Store} {t : ATrx} (h : s.getTrx t.hash = none) :
    s.save t = ((if t.issuer == t.receiver then [t.receiver] else [t.issuer, t.receiver]).foldl
      (fun s a => saveAddr s a t.hash) (s.setTrx t.hash t), none) := by
  unfold save; rw [h]

theorem fresh_of_save_ok {s : Store} {t : ATrx} (h : (s.save t).2 = none) : s.getTrx t.hash = none := by
  cases hg : s.getTrx t.hash with
  | none => rfl
  | some x => rw [save_exists_noop s t x hg] at h; cases h

theorem getTrx_save {s : Store} {t : ATrx} (h : s.getTrx t.hash = none) (k : Hash) :
    (s.save t).1.getTrx k = if k = t.hash then some t else s.getTrx k := by
  rw [save_fresh h]
  exact (getTrx_congr (foldl_keeps _ Store.trxs (fun s a => trxs_saveAddr s a _) _ _) k).trans (getTrx_setTrx s t.hash k t)

theorem lists_save {s : Store} {t : ATrx} (h : s.getTrx t.hash = none) (a : Addr) (x : Hash) :
    (s.save t).1.Lists a x ↔ (x = t.hash ∧ (t.issuer = a ∨ t.receiver = a)) ∨ s.Lists a x := by
  rw [save_fresh h]; dsimp only
  rw [lists_foldl_saveAddr, lists_setTrx]
  have : a ∈ (if t.issuer == t.receiver then [t.receiver] else [t.issuer, t.receiver]) ↔ t.issuer = a ∨ t.receiver = a := by
    split
    · rename_i he; rw [beq_iff_eq.1 he]; simp [eq_comm]
    · simp [eq_comm]
  rw [this, and_comm]

theorem remove_unknown (s : Store) (h : Hash) (a : Addr) (ht : s.getTrx h = none) : s.remove h a = (s, some .notFound) := by
  unfold remove; rw [ht]

theorem remove_by_non_receiver (s : Store) (h : Hash) (a : Addr) (t : ATrx) (ht : s.getTrx h = some t)
    (hne : t.receiver ≠ a) : s.remove h a = (s, some .unauthorized) := by
  unfold remove; rw [ht]; simp [hne]

theorem remove_by_receiver {s : Store} {h : Hash} {t : ATrx} (ht : s.getTrx h = some t) :
    s.remove h t.receiver = ([t.issuer, t.receiver].foldl (fun s x => removeAddr s x h) (s.delTrx h), none) := by
  unfold remove; rw [ht]; simp

theorem getTrx_remove {s : Store} {h : Hash} {t : ATrx} (ht : s.getTrx h = some t) (k : Hash) :
    (s.remove h t.receiver).1.getTrx k = if k = h then none else s.getTrx k := by
  rw [remove_by_receiver ht]
  exact (getTrx_congr (foldl_keeps _ Store.trxs (fun s a => trxs_removeAddr s a _) _ _) k).trans (getTrx_delTrx s h k)

theorem lists_remove {s : Store} {h : Hash} {t : ATrx} (ht : s.getTrx h = some t) (a : Addr) (x : Hash) :
    (s.remove h t.receiver).1.Lists a x ↔ s.Lists a x ∧ ¬ (x = h ∧ (t.issuer = a ∨ t.receiver = a)) := by
  rw [remove_by_receiver ht]; dsimp only
  rw [lists_foldl_removeAddr, lists_delTrx]
  simp [eq_comm, and_comm]

theorem read_none {s : Store} {a : Addr} (h : (s.read a).2 = none) (x : Hash) : ¬ s.Lists a x := by
  revert h
  fun_cases Store.read s a with
  | case1 hg => exact fun _ ⟨v, hv, _⟩ => nomatch hg.symm.trans hv
  | case2 v hg he => exact fun _ => not_lists_of_empty hg he x
  | case3 v hg he => nofun

theorem read_some {s : Store} {a : Addr} {l : List ATrx} (h : (s.read a).2 = some l) (t : ATrx) :
    t ∈ l ↔ ∃ x, s.Lists a x ∧ s.getTrx x = some t := by
  revert h
  fun_cases Store.read s a with
  | case1 hg => nofun
  | case2 v hg he => nofun
  | case3 v hg he =>
    intro h
    rw [← Option.some.inj h]
    show t ∈ (tRead v).filterMap s.getTrx ↔ _
    simp only [List.mem_filterMap, mem_tRead, Lists.of_get hg]

/-- Transactions are stored under their own hash, and `a` lists `h` exactly if the transaction stored under `h` names
`a` as issuer or receiver. -/
structure IdxInv (s : Store) : Prop where
  keyed : ∀ h t, s.getTrx h = some t → t.hash = h
  lists : ∀ a h, s.Lists a h ↔ ∃ t, s.getTrx h = some t ∧ (t.issuer = a ∨ t.receiver = a)

theorem IdxInv.empty : IdxInv {} where
  keyed := by intro h t ht; cases ht
  lists := by intro a h; simp [Lists, getList, getTrx]

theorem IdxInv.after_save {s : Store} (inv : IdxInv s) (t : ATrx) : IdxInv (s.save t).1 := by
  cases hg : s.getTrx t.hash with
  | some x => rw [save_exists_noop s t x hg]; exact inv
  | none =>
    refine ⟨fun k t' => ?_, fun a x => ?_⟩
    · rw [getTrx_save hg]
      split
      · rintro ⟨⟩; exact (‹k = t.hash›).symm
      · exact inv.keyed k t'
    · rw [lists_save hg, getTrx_save hg, inv.lists]
      by_cases hx : x = t.hash
      · simp [hx, hg]
      · simp [hx]

theorem IdxInv.after_remove {s : Store} (inv : IdxInv s) (h : Hash) (a : Addr) : IdxInv (s.remove h a).1 := by
  cases ht : s.getTrx h with
  | none => rw [remove_unknown s h a ht]; exact inv
  | some t =>
    by_cases hr : t.receiver = a
    · subst hr
      refine ⟨fun k t' => ?_, fun a x => ?_⟩
      · rw [getTrx_remove ht]
        split
        · rintro ⟨⟩
        · exact inv.keyed k t'
      · rw [lists_remove ht, getTrx_remove ht, inv.lists]
        by_cases hx : x = h
        · subst hx
          rw [if_pos rfl]
          constructor
          · rintro ⟨⟨t', ht', hp⟩, hn⟩; rw [ht] at ht'; cases ht'; exact absurd ⟨rfl, hp⟩ hn
          · rintro ⟨_, ⟨⟩, _⟩
        · simp [hx]
    · rw [remove_by_non_receiver s h a t ht hr]; exact inv

theorem IdxInv.after_read {s : Store} (inv : IdxInv s) (a : Addr) : IdxInv (s.read a).1 := by
  fun_cases Store.read s a with
  | case1 hg => exact inv
  | case2 v hg he =>
    -- the list is the single empty token: the key is deleted, and by the invariant no transaction names `a`
    refine ⟨inv.keyed, fun b x => ?_⟩
    rw [lists_delList, inv.lists]
    have := fun x => mt (inv.lists a x).2 (not_lists_of_empty hg he x)
    constructor
    · exact fun h => h.2
    · rintro ⟨t, ht, hrel⟩
      exact ⟨fun e => this x ⟨t, ht, e ▸ hrel⟩, t, ht, hrel⟩
  | case3 v hg he hs found missing =>
    -- every listed hash resolves: nothing to clean up
    have hmiss : missing = [] := by
      apply List.filter_eq_nil_iff.2
      intro x hx
      obtain ⟨t, ht, _⟩ := (inv.lists a x).1 ⟨v, hg, mem_tRead.1 hx⟩
      simp [ht]
    show IdxInv (missing.foldl _ s)
    rw [hmiss]
    exact inv

inductive Op
  | save (t : ATrx) | remove (h : Hash) (a : Addr) | read (a : Addr)

def apply (s : Store) : Op → Store
  | .save t => (s.save t).1
  | .remove h a => (s.remove h a).1
  | .read a => (s.read a).1

theorem IdxInv.step {s : Store} (h : IdxInv s) : ∀ op, IdxInv (apply s op)
  | .save t => h.after_save t
  | .remove x a => h.after_remove x a
  | .read a => h.after_read a

theorem IdxInv.all_sequences (ops : List Op) : IdxInv (ops.foldl apply {}) :=
  List.foldlRecOn ops apply IdxInv.empty fun _ h op _ => h.step op

end CModel.AwaitCache
