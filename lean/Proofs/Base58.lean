import CModel.Sha256
import Proofs.Base256
/-! C04 / C10: base58check address decoding is injective — one address text per key (after the version byte
is pinned, fix e7471a1). Core Lean only.

The decoder maps characters to digits (`mapM b58index`), digits to the pair (number of leading zeros, value)
and that pair to bytes (as many zero bytes, then the big-endian number). Each of the three steps is
injective: the first because `b58index` is, the middle one as a fact about positional numerals in any base
(`ofDigits_zeros_inj`), the last because `Base256.ofBE` reads the number back (`ofBE_natToBytesBE`). -/
namespace CModel.Crypto
open Base256

section mapM
variable {α β : Type} {f : α → Option β}

theorem mapM_cons_eq_some {a : α} {l : List α} {r : List β} :
    (a :: l).mapM f = some r ↔ ∃ b, f a = some b ∧ ∃ bs, l.mapM f = some bs ∧ b :: bs = r := by
  rw [List.mapM_cons]
  simp only [Option.bind_eq_bind, Option.bind_eq_some_iff, Option.pure_def, Option.some.injEq]

theorem mapM_some_forall {P : β → Prop} (hf : ∀ a b, f a = some b → P b) {l : List α} {r : List β}
    (h : l.mapM f = some r) : ∀ b ∈ r, P b := by
  induction l generalizing r with
  | nil => cases h; exact fun _ => nofun
  | cons a l ih =>
    obtain ⟨b, hb, bs, hbs, rfl⟩ := mapM_cons_eq_some.mp h
    exact List.forall_mem_cons.mpr ⟨hf a b hb, ih hbs⟩

theorem mapM_some_inj (hf : ∀ a a' b, f a = some b → f a' = some b → a = a') {l l' : List α} {r : List β}
    (h : l.mapM f = some r) (h' : l'.mapM f = some r) : l = l' := by
  induction l generalizing l' r with
  | nil =>
    cases h
    cases l' with
    | nil => rfl
    | cons a' l' => obtain ⟨_, _, _, _, e⟩ := mapM_cons_eq_some.mp h'; cases e
  | cons a l ih =>
    obtain ⟨b, hb, bs, hbs, rfl⟩ := mapM_cons_eq_some.mp h
    cases l' with
    | nil => cases h'
    | cons a' l' =>
      obtain ⟨b', hb', bs', hbs', e⟩ := mapM_cons_eq_some.mp h'
      cases e
      rw [hf a a' b hb hb', ih hbs hbs']

end mapM

section dropWhile
variable {α : Type} [BEq α] [LawfulBEq α] (a : α) (l : List α)

theorem eq_replicate_append_dropWhile :
    l = List.replicate (l.takeWhile (· == a)).length a ++ l.dropWhile (· == a) := by
  conv => lhs; rw [← List.takeWhile_append_dropWhile (p := (· == a)) (l := l)]
  congr 1
  exact List.eq_replicate_iff.mpr ⟨rfl, fun d hd => by simpa using List.all_eq_true.mp List.all_takeWhile d hd⟩

theorem head?_dropWhile_beq_ne : (l.dropWhile (· == a)).head? ≠ some a := by
  intro h
  have := List.head?_dropWhile_not (· == a) l
  rw [h] at this
  simp at this

end dropWhile

theorem b58index_go_some (c : Char) (cs : List Char) (k i : Nat) (h : b58index.go c cs k = some i) :
    ∃ j, i = k + j ∧ cs[j]? = some c := by
  fun_induction b58index.go c cs k with
  | case1 k => cases h
  | case2 k x xs hx =>
    cases h
    exact ⟨0, rfl, congrArg some (eq_of_beq hx)⟩
  | case3 k x xs hx ih =>
    obtain ⟨j, hj, hc⟩ := ih h
    exact ⟨j + 1, by rw [hj, Nat.add_assoc, Nat.add_comm 1], hc⟩

theorem b58index_inj (c c' : Char) (i : Nat) (h : b58index c = some i) (h' : b58index c' = some i) : c = c' := by
  obtain ⟨j, hj, hc⟩ := b58index_go_some c _ 0 i h
  obtain ⟨j', hj', hc'⟩ := b58index_go_some c' _ 0 i h'
  cases Nat.add_left_cancel (hj.symm.trans hj')
  exact Option.some.inj (hc.symm.trans hc')

theorem b58alphabet_length : b58alphabet.toList.length = 58 := by
  -- a `String` literal is `String.ofList` of its characters by definition; evaluating `toList` on it instead
  -- makes the kernel decode its UTF-8 bytes
  rw [b58alphabet, String.toList_ofList]
  rfl

theorem b58index_lt (c : Char) (i : Nat) (h : b58index c = some i) : i < 58 := by
  obtain ⟨j, hj, hc⟩ := b58index_go_some c _ 0 i h
  rw [hj, Nat.zero_add, ← b58alphabet_length]
  exact (List.getElem?_eq_some_iff.mp hc).1

theorem ofDigits_eq_zero {b : Nat} (hb : 0 < b) {t : List Nat} (ht : t.head? ≠ some 0) (h : ofDigits b t = 0) : t = [] := by
  cases t with
  | nil => rfl
  | cons d ds => exact absurd (congrArg some (Nat.eq_zero_of_le_zero (h ▸ le_ofDigits_cons hb d ds))) ht

theorem ofDigits_inj {b : Nat} (hb : 0 < b) (t t' : List Nat) (ht : t.head? ≠ some 0) (ht' : t'.head? ≠ some 0)
    (hlt : ∀ d ∈ t, d < b) (hlt' : ∀ d ∈ t', d < b) (h : ofDigits b t = ofDigits b t') : t = t' := by
  induction hn : t.length generalizing t t' with
  | zero =>
    cases List.eq_nil_of_length_eq_zero hn
    exact (ofDigits_eq_zero hb ht' h.symm).symm
  | succ n ih =>
    obtain ⟨init, last, rfl⟩ := (List.eq_nil_or_concat t).resolve_left (by rintro rfl; cases hn)
    rcases List.eq_nil_or_concat t' with rfl | ⟨init', last', rfl⟩
    · exact ofDigits_eq_zero hb ht h
    simp only [List.concat_eq_append] at *
    rw [ofDigits_snoc, ofDigits_snoc] at h
    -- `last`, `last'` are the remainders, and the values of `init`, `init'` the quotients, of one number by `b`
    have hl := hlt last (List.mem_append_right _ (List.mem_singleton_self _))
    have hl' := hlt' last' (List.mem_append_right _ (List.mem_singleton_self _))
    have e1 : last = last' := by rw [← Nat.mul_add_mod_of_lt hl, h, Nat.mul_add_mod_of_lt hl']
    subst e1
    rw [ih init init' (fun e => ht (by simp [e])) (fun e => ht' (by simp [e]))
      (fun d hd => hlt d (List.mem_append_left _ hd)) (fun d hd => hlt' d (List.mem_append_left _ hd))
      (Nat.eq_of_mul_eq_mul_right hb (Nat.add_right_cancel h)) (by simpa using hn)]

theorem ofDigits_dropWhile_zero (b : Nat) (ds : List Nat) : ofDigits b (ds.dropWhile (· == 0)) = ofDigits b ds :=
  (ofDigits_zeros_append b _ _).symm.trans (congrArg (ofDigits b) (eq_replicate_append_dropWhile 0 ds).symm)

theorem ofDigits_zeros_inj {b : Nat} (hb : 0 < b) (ds ds' : List Nat) (hlt : ∀ d ∈ ds, d < b) (hlt' : ∀ d ∈ ds', d < b)
    (hz : (ds.takeWhile (· == 0)).length = (ds'.takeWhile (· == 0)).length) (hv : ofDigits b ds = ofDigits b ds') :
    ds = ds' := by
  have ht := ofDigits_inj hb _ _ (head?_dropWhile_beq_ne 0 ds) (head?_dropWhile_beq_ne 0 ds')
    (fun d hd => hlt d (List.dropWhile_subset _ hd)) (fun d hd => hlt' d (List.dropWhile_subset _ hd))
    (by rw [ofDigits_dropWhile_zero, ofDigits_dropWhile_zero, hv])
  rw [eq_replicate_append_dropWhile 0 ds, eq_replicate_append_dropWhile 0 ds', hz, ht]

theorem ofBE_natToBytesBE (n : Nat) : ofBE (natToBytesBE n) = n := by
  fun_induction natToBytesBE n with
  | case1 => rfl
  | case2 n h ih =>
    rw [ofBE_snoc, ih, UInt8.toNat_ofNat', Nat.mod_mod]
    exact Nat.div_add_mod' n 256

theorem digitsVal_eq (ds : List Nat) : digitsVal ds = ofDigits 58 ds := rfl

theorem base58DecodeC_some (cs : List Char) (bs : Bytes) (h : base58DecodeC cs = some bs) :
    ∃ ds, cs.mapM b58index = some ds ∧
      bs = List.replicate (ds.takeWhile (· == 0)).length (0 : UInt8) ++ natToBytesBE (digitsVal ds) := by
  obtain ⟨ds, hm, h⟩ := Option.bind_eq_some_iff.mp h
  exact ⟨ds, hm, (Option.some.inj h).symm⟩

theorem base58DecodeC_inj (cs cs' : List Char) (bs : Bytes) (h : base58DecodeC cs = some bs) (h' : base58DecodeC cs' = some bs) :
    cs = cs' := by
  obtain ⟨ds, hm, hb⟩ := base58DecodeC_some cs bs h
  obtain ⟨ds', hm', hb'⟩ := base58DecodeC_some cs' bs h'
  have e := hb.symm.trans hb'
  rw [digitsVal_eq, digitsVal_eq] at e
  -- the bytes give the value (leading zero bytes add nothing to it), then their number gives the count of zeros
  have hv : ofDigits 58 ds = ofDigits 58 ds' := by
    have := congrArg ofBE e
    rwa [ofBE_zeros_append, ofBE_zeros_append, ofBE_natToBytesBE, ofBE_natToBytesBE] at this
  have hz : (ds.takeWhile (· == 0)).length = (ds'.takeWhile (· == 0)).length := by
    rw [hv] at e
    have := congrArg List.length (List.append_cancel_right e)
    rwa [List.length_replicate, List.length_replicate] at this
  have := ofDigits_zeros_inj (by decide) ds ds' (mapM_some_forall b58index_lt hm) (mapM_some_forall b58index_lt hm') hz hv
  subst this
  exact mapM_some_inj b58index_inj hm hm'

theorem addressToPubKeyC_some (cs : List Char) (k : Bytes) (h : addressToPubKeyC cs = some k) :
    base58DecodeC cs = some ((0 :: k) ++ (sha256 (sha256 (0 :: k))).take checksumLength) := by
  obtain ⟨raw, hr, h⟩ := Option.bind_eq_some_iff.mp h
  rw [hr, ← List.take_append_drop (raw.length - checksumLength) raw]
  generalize raw.take (raw.length - checksumLength) = body at h ⊢
  generalize raw.drop (raw.length - checksumLength) = actual at h ⊢
  -- the decoder's three tests: `raw` is long enough, `body` starts with the version byte, `actual` is the checksum of `body`
  simp only [Option.ite_none_left_eq_some, Option.ite_none_right_eq_some, Option.some.injEq] at h
  obtain ⟨_, hver, hsum, rfl⟩ := h
  have hver : body.head? = some 0 := Decidable.not_not.mp fun ne => hver (bne_iff_ne.mpr ne)
  obtain ⟨key, rfl⟩ := List.head?_eq_some_iff.mp hver
  rw [eq_of_beq hsum, List.drop_one, List.tail_cons]

theorem addressToPubKeyC_inj (cs cs' : List Char) (k : Bytes) (h : addressToPubKeyC cs = some k) (h' : addressToPubKeyC cs' = some k) :
    cs = cs' :=
  base58DecodeC_inj cs cs' _ (addressToPubKeyC_some cs k h) (addressToPubKeyC_some cs' k h')

theorem char_ofNat_toNat {n : Nat} (h : n < 0xd800) : (Char.ofNat n).toNat = n := by
  rw [Char.ofNat, dif_pos (Or.inl h)]
  rfl

/-- The driver hands an address to the decoder as one character per byte (`Tx.realOps.addrKey`). -/
theorem byteChar_inj (x y : UInt8) (h : Char.ofNat x.toNat = Char.ofNat y.toNat) : x = y := by
  have := congrArg Char.toNat h
  rw [char_ofNat_toNat (Nat.lt_trans x.toNat_lt (by decide)), char_ofNat_toNat (Nat.lt_trans y.toNat_lt (by decide))] at this
  exact UInt8.toNat_inj.mp this

end CModel.Crypto
