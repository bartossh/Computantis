import CModel.Spice
/-! C05, spice arithmetic. A Melange is a two-digit number `c * B + s` with `B = 10^18` and `c < 2^64`. What
`supply` and `transfer` do to the digits is said for any radix (`digits_*`): the carry of `supply` and the
borrow of `transfer` are one equation, `digits_carry`, read in the two directions. Every `UInt64` operation
of spice.go is guarded by a test that keeps it from wrapping, so the proofs about the words only turn the
guard in force into a fact about `toNat` (`maxU_sub_lt`, `maxSupp_sub_le`, `toNat_add_of_lt`, `toNat_sub_of_le`)
and then quote the digit lemmas. `transfer` is `supply` on the receiver and `debit` on the sender (`transfer_split`). -/
namespace CModel.Melange

theorem digits_add (B c s c' s' : Nat) : (c + c') * B + (s + s') = c * B + s + (c' * B + s') := by
  rw [Nat.add_mul, Nat.add_add_add_comm]

theorem digits_carry (B c s : Nat) : (c + 1) * B + s = c * B + (s + B) := by
  rw [Nat.succ_mul, Nat.add_assoc, Nat.add_comm B]

theorem digits_ge (B W c s : Nat) (h : W ≤ c) : W * B ≤ c * B + s :=
  Nat.le_trans (Nat.mul_le_mul_right B h) (Nat.le_add_right ..)

theorem digits_lt (B c s c' s' : Nat) (hs : s < B) (h : c < c') : c * B + s < c' * B + s' :=
  Nat.lt_of_lt_of_le (Nat.lt_of_lt_of_eq (Nat.add_lt_add_left hs _) (Nat.succ_mul c B).symm) (digits_ge B (c + 1) c' s' h)

theorem maxSupp_toNat : maxSupp.toNat = 1000000000000000000 := by decide
theorem maxU_toNat : maxU.toNat = 18446744073709551615 := by decide

theorem toNat_add_of_lt (x y : UInt64) (h : x.toNat + y.toNat < 2 ^ 64) :
    (x + y).toNat = x.toNat + y.toNat := by
  rw [UInt64.toNat_add, Nat.mod_eq_of_lt h]

theorem toNat_sub_of_le (x y : UInt64) (h : y.toNat ≤ x.toNat) : (x - y).toNat = x.toNat - y.toNat :=
  UInt64.toNat_sub_of_le _ _ (UInt64.le_iff_toNat_le.2 h)

/-- Go's test `math.MaxUint64 - y < x` for "`x + y` wraps". -/
theorem maxU_sub_lt (x y : UInt64) : maxU - y < x ↔ 2 ^ 64 ≤ x.toNat + y.toNat := by
  have hy := Nat.le_of_lt_succ y.toNat_lt
  rw [UInt64.lt_iff_toNat_lt, toNat_sub_of_le _ _ (maxU_toNat ▸ hy), maxU_toNat, Nat.sub_lt_iff_lt_add hy]
  exact Nat.lt_iff_add_one_le

/-- Go's test `MaxAmountPerSupplementaryCurrency - y <= x` for "`x + y` carries", `y` canonical. -/
theorem maxSupp_sub_le (x y : UInt64) (hy : y.toNat < 1000000000000000000) :
    maxSupp - y ≤ x ↔ 1000000000000000000 ≤ x.toNat + y.toNat := by
  rw [UInt64.le_iff_toNat_le, toNat_sub_of_le _ _ (maxSupp_toNat ▸ Nat.le_of_lt hy), maxSupp_toNat, Nat.sub_le_iff_le_add]

/-- 2^64 · 10^18: the first value a canonical Melange cannot represent. -/
def capacity : Nat := 18446744073709551616 * 1000000000000000000

theorem val_lt_capacity (m : Melange) (h : Canon m) : val m < capacity :=
  digits_lt _ _ _ _ 0 h m.cur.toNat_lt

theorem val_add (m a : Melange) :
    val m + val a = (m.cur.toNat + a.cur.toNat) * 1000000000000000000 + (m.supp.toNat + a.supp.toNat) :=
  (digits_add ..).symm

theorem canonB_iff (m : Melange) : m.canonB = true ↔ Canon m := by
  unfold canonB Canon
  simp only [decide_eq_true_eq, UInt64.lt_iff_toNat_lt, maxSupp_toNat]

theorem canon_zero : Canon zero := by decide
theorem val_zero : val zero = 0 := by decide

theorem empty_val {m : Melange} (h : m.empty = true) : val m = 0 := by
  obtain ⟨c, s⟩ := m
  simp only [empty, Bool.and_eq_true, beq_iff_eq] at h
  obtain ⟨rfl, rfl⟩ := h
  rfl

theorem supply_cases (m a : Melange) (hm : Canon m) (ha : Canon a) :
    (∃ m', supply m a = (m', none) ∧ val m' = val m + val a ∧ Canon m') ∨
    (supply m a = (m, some .overflow) ∧ val m + val a ≥ capacity) := by
  have hS := toNat_add_of_lt m.supp a.supp (Nat.lt_trans (Nat.add_lt_add hm ha) (by decide))
  have hC : ¬maxU - a.cur < m.cur → (m.cur + a.cur).toNat = m.cur.toNat + a.cur.toNat := fun h1 =>
    toNat_add_of_lt m.cur a.cur (Nat.lt_of_not_le (mt (maxU_sub_lt m.cur a.cur).2 h1))
  have hK : maxSupp ≤ m.supp + a.supp ↔ 1000000000000000000 ≤ m.supp.toNat + a.supp.toNat := by
    rw [UInt64.le_iff_toNat_le, hS, maxSupp_toNat]
  rw [supply_eq, ge_iff_le, val_add]
  fun_cases supplyImpl m a
  case case1 h1 => exact .inr ⟨rfl, digits_ge _ _ _ _ ((maxU_sub_lt _ _).1 h1)⟩
  case case2 h1 _ h2 =>
    -- a carry, and the currency digit has no room for it
    refine .inr ⟨rfl, ?_⟩
    rw [← Nat.sub_add_cancel ((maxSupp_sub_le _ _ ha).1 h2.1), ← digits_carry, ← hC h1, congrArg UInt64.toNat h2.2]
    exact digits_ge _ _ _ _ (Nat.le_refl _)
  case case3 h1 _ h2 _ h3 =>
    -- the carry cannot wrap: `h2` has excluded `cur = maxU`
    have hk := hK.1 h3
    have h1' := toNat_add_of_lt (m.cur + a.cur) 1 (Nat.lt_of_le_of_ne (m.cur + a.cur).toNat_lt
      fun e => h2 ⟨(maxSupp_sub_le _ _ ha).2 hk, UInt64.toNat_inj.1 (Nat.succ.inj e)⟩)
    have hB := toNat_sub_of_le (m.supp + a.supp) maxSupp (UInt64.le_iff_toNat_le.1 h3)
    refine .inl ⟨_, rfl, ?_, ?_⟩
    · show (m.cur + a.cur + 1).toNat * 1000000000000000000 + (m.supp + a.supp - maxSupp).toNat = _
      rw [h1', hC h1, hB, hS, maxSupp_toNat, UInt64.toNat_one, digits_carry, Nat.sub_add_cancel hk]
    · show (m.supp + a.supp - maxSupp).toNat < _
      rw [hB, hS, maxSupp_toNat]
      exact Nat.sub_lt_left_of_lt_add hk (Nat.add_lt_add hm ha)
  case case4 h1 _ _ _ h3 =>
    refine .inl ⟨_, rfl, ?_, ?_⟩
    · show (m.cur + a.cur).toNat * 1000000000000000000 + (m.supp + a.supp).toNat = _
      rw [hC h1, hS]
    · show (m.supp + a.supp).toNat < _
      rw [hS]
      exact Nat.lt_of_not_le (mt hK.2 h3)

theorem supply_canon (m a : Melange) (hm : Canon m) (ha : Canon a) : Canon (m.supply a).1 := by
  rcases supply_cases m a hm ha with ⟨r, hr, _, hc⟩ | ⟨hr, _⟩ <;> rw [hr]
  · exact hc
  · exact hm

theorem supply_err_unchanged (m a m' : Melange) (e : Err) :
    supply m a = (m', some e) → m' = m ∧ e = .overflow := by
  rw [supply_eq]
  fun_cases supplyImpl m a <;> intro h <;> cases h <;> exact ⟨rfl, rfl⟩

/-- The sender's half of `transfer`: `frm - amt`, or `none` when `amt` is the larger. -/
def debit (amt frm : Melange) : Option Melange :=
  if amt.cur > frm.cur then none else
  if amt.supp > frm.supp then
    if frm.cur - amt.cur = 0 then none else some ⟨frm.cur - amt.cur - 1, frm.supp + maxSupp - amt.supp⟩
  else some ⟨frm.cur - amt.cur, frm.supp - amt.supp⟩

theorem debit_cases (amt frm : Melange) (ha : Canon amt) (hf : Canon frm) :
    (∃ f', debit amt frm = some f' ∧ val f' + val amt = val frm ∧ Canon f') ∨
    (debit amt frm = none ∧ val amt > val frm) := by
  obtain ⟨ac, as⟩ := amt
  obtain ⟨fc, fs⟩ := frm
  -- every guard becomes a fact about `toNat`s, and `val f' + val amt` the digit-wise sum
  -- `(f'.cur + ac) * 10^18 + (f'.supp + as)`
  simp only [debit, val, Canon, gt_iff_lt, UInt64.lt_iff_toNat_lt, ← UInt64.toNat_inj, UInt64.toNat_zero, ← digits_add]
  by_cases hc : fc.toNat < ac.toNat
  · exact .inr ⟨if_pos hc, digits_lt _ _ _ _ _ hf hc⟩
  have hC := toNat_sub_of_le fc ac (Nat.le_of_not_lt hc)
  rw [if_neg hc, hC]
  by_cases hs : fs.toNat < as.toNat
  · rw [if_pos hs]
    by_cases hz : fc.toNat - ac.toNat = 0
    · -- equal currency digits, and the supplementary digit is too small
      refine .inr ⟨if_pos hz, ?_⟩
      rw [Nat.le_antisymm (Nat.le_of_not_lt hc) (Nat.le_of_sub_eq_zero hz)]
      exact Nat.add_lt_add_left hs _
    · -- the borrow: one unit of currency, which is there by `hz`, becomes `10^18` of the supplement, in digits
      -- `(fc - ac - 1 + ac) * 10^18 + (fs + 10^18 - as + as) = fc * 10^18 + fs`
      have hlt : ac.toNat + 1 ≤ fc.toNat := Nat.lt_of_sub_ne_zero hz
      have hle : as.toNat ≤ fs.toNat + 1000000000000000000 := Nat.le_trans (Nat.le_of_lt ha) (Nat.le_add_left ..)
      have h1 := toNat_sub_of_le (fc - ac) 1 (hC ▸ Nat.pos_of_ne_zero hz)
      have hA := toNat_add_of_lt fs maxSupp (maxSupp_toNat ▸ Nat.lt_trans (Nat.add_lt_add_right hf _) (by decide))
      have hB := toNat_sub_of_le (fs + maxSupp) as (by rw [hA, maxSupp_toNat]; exact hle)
      refine .inl ⟨_, if_neg hz, ?_, ?_⟩ <;> simp only [h1, hA, hB, hC, maxSupp_toNat, UInt64.toNat_one]
      · rw [Nat.sub_add_cancel hle, ← digits_carry, Nat.sub_sub, Nat.add_assoc, Nat.sub_add_cancel hlt]
      · exact Nat.sub_lt_left_of_lt_add hle (Nat.add_lt_add_right hs _)
  · have hB := toNat_sub_of_le fs as (Nat.le_of_not_lt hs)
    refine .inl ⟨_, if_neg hs, ?_, ?_⟩ <;> simp only [hB, hC]
    · rw [Nat.sub_add_cancel (Nat.le_of_not_lt hc), Nat.sub_add_cancel (Nat.le_of_not_lt hs)]
    · exact Nat.lt_of_le_of_lt (Nat.sub_le ..) hf

/-- `transfer` runs `supply to amt` and `debit amt frm` with every test ahead of the first write
(for all words, canonical or not). Stated with equations and not as `match supply to amt, debit amt frm with ..`:
once `supplyImpl` is unfolded inside a match discriminant, `simp` tries to evaluate its `UInt64` guards (the trap
described in CModel/Spice.lean). -/
theorem transfer_split (amt frm to : Melange) :
    (∃ f' t', transfer amt frm to = (f', t', none) ∧ debit amt frm = some f' ∧ supply to amt = (t', none)) ∨
    (transfer amt frm to = (frm, to, some .insufficient) ∧ debit amt frm = none) ∨
    (transfer amt frm to = (frm, to, some .overflow) ∧ supply to amt = (to, some .overflow)) := by
  rw [transfer_eq, supply_eq]
  fun_cases transferImpl amt frm to
  -- at each leaf, `debit` and `supplyImpl` are followed along the tests `h1 … h6` that led there (the unnamed
  -- hypotheses are `let`s)
  case case1 h1 => exact .inr (.inl ⟨rfl, if_pos h1⟩)
  case case2 _ h2 => exact .inr (.inr ⟨rfl, if_pos h2⟩)
  case case3 _ h2 _ h3 => exact .inr (.inr ⟨rfl, (if_neg h2).trans (if_pos h3)⟩)
  case case4 h1 _ _ _ _ h4 h5 => exact .inr (.inl ⟨rfl, (if_neg h1).trans <| (if_pos h4).trans (if_pos h5)⟩)
  case case5 h1 h2 _ _ h3 h4 h5 _ _ h6 =>
    exact .inl ⟨_, _, rfl, (if_neg h1).trans <| (if_pos h4).trans (if_neg h5),
      (if_neg h2).trans <| (if_neg h3).trans (if_pos h6)⟩
  case case6 h1 h2 _ _ h3 h4 h5 _ _ h6 =>
    exact .inl ⟨_, _, rfl, (if_neg h1).trans <| (if_pos h4).trans (if_neg h5),
      (if_neg h2).trans <| (if_neg h3).trans (if_neg h6)⟩
  case case7 h1 h2 _ _ h3 h4 _ _ h6 =>
    exact .inl ⟨_, _, rfl, (if_neg h1).trans (if_neg h4), (if_neg h2).trans <| (if_neg h3).trans (if_pos h6)⟩
  case case8 h1 h2 _ _ h3 h4 _ _ h6 =>
    exact .inl ⟨_, _, rfl, (if_neg h1).trans (if_neg h4), (if_neg h2).trans <| (if_neg h3).trans (if_neg h6)⟩

theorem transfer_cases (amt frm to : Melange) (ha : Canon amt) (hf : Canon frm) (ht : Canon to) :
    (∃ f' t', transfer amt frm to = (f', t', none) ∧ val f' + val amt = val frm ∧
        val t' = val to + val amt ∧ Canon f' ∧ Canon t') ∨
    (transfer amt frm to = (frm, to, some .insufficient) ∧ val amt > val frm) ∨
    (transfer amt frm to = (frm, to, some .overflow) ∧ val to + val amt ≥ capacity) := by
  rcases transfer_split amt frm to with ⟨f', t', h, hd, hs⟩ | ⟨h, hd⟩ | ⟨h, hs⟩
  · rcases debit_cases amt frm ha hf with ⟨_, hd', hfv, hfc⟩ | ⟨hd', _⟩ <;> cases hd.symm.trans hd'
    rcases supply_cases to amt ht ha with ⟨_, hs', htv, htc⟩ | ⟨hs', _⟩ <;> cases hs.symm.trans hs'
    exact .inl ⟨_, _, h, hfv, htv, hfc, htc⟩
  · rcases debit_cases amt frm ha hf with ⟨_, hd', _⟩ | ⟨_, hlt⟩
    · cases hd.symm.trans hd'
    · exact .inr (.inl ⟨h, hlt⟩)
  · rcases supply_cases to amt ht ha with ⟨_, hs', _⟩ | ⟨_, hge⟩
    · cases hs.symm.trans hs'
    · exact .inr (.inr ⟨h, hge⟩)

theorem transfer_err_unchanged (amt frm to f' t' : Melange) (e : Err)
    (h : transfer amt frm to = (f', t', some e)) : f' = frm ∧ t' = to := by
  rcases transfer_split amt frm to with ⟨_, _, h', _⟩ | ⟨h', _⟩ | ⟨h', _⟩ <;>
    cases h.symm.trans h'
  · exact ⟨rfl, rfl⟩
  · exact ⟨rfl, rfl⟩

theorem transfer_conserves (amt a b : Melange) (ha : Canon amt) (h1 : Canon a) (h2 : Canon b) :
    val (transfer amt a b).1 + val (transfer amt a b).2.1 = val a + val b ∧
    Canon (transfer amt a b).1 ∧ Canon (transfer amt a b).2.1 := by
  rcases transfer_cases amt a b ha h1 h2 with ⟨f, t, hr, e1, e2, c1, c2⟩ | ⟨hr, _⟩ | ⟨hr, _⟩ <;> rw [hr]
  · exact ⟨show val f + val t = val a + val b by rw [e2, ← e1, Nat.add_assoc, Nat.add_comm (val amt)], c1, c2⟩
  · exact ⟨rfl, h1, h2⟩
  · exact ⟨rfl, h1, h2⟩

theorem drain_zero_cases (m amt : Melange) (hm : Canon m) (ha : Canon amt) :
    (∃ r t, drain m amt zero = (r, t, none) ∧ val r + val amt = val m ∧ Canon r) ∨
    (drain m amt zero = (m, zero, some .insufficient) ∧ val amt > val m) := by
  rcases transfer_cases amt m zero ha hm canon_zero with ⟨r, t, h, hv, _, hc, _⟩ | h | ⟨_, hge⟩
  · exact .inl ⟨r, t, h, hv, hc⟩
  · exact .inr h
  · -- an empty sink cannot overflow: it receives `val amt < capacity`
    rw [val_zero, Nat.zero_add] at hge
    exact absurd hge (Nat.not_le.2 (val_lt_capacity amt ha))

theorem drain_canon (m a : Melange) (hm : Canon m) (ha : Canon a) : Canon (m.drain a zero).1 := by
  rcases drain_zero_cases m a hm ha with ⟨f, t, hr, _, hc⟩ | ⟨hr, _⟩ <;> rw [hr]
  · exact hc
  · exact hm

end CModel.Melange
