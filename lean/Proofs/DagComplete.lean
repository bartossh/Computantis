import Proofs.LedgerDag
/-! C09: every declared parent of a live vertex is either live and linked, or checkpointed; a vertex that declares
none has no incoming edge. Together with `EdgeInv` this makes the edges of an untruncated ledger a function of its
vertices (`Reachable.mem_edges_iff`), which is what a node that loads them rebuilds. Last, the one fact about sealing
that loading needs: at most one live vertex is self-sealed. -/
namespace CModel.Book
open CModel

/-- A declared parent is never simply missing: only a truncation takes a vertex with children out of the live graph,
and it stores what it takes. -/
def ParentOK (b : Book) (v : Vertex) (p : Hash) : Prop :=
  (b.hasVertex p = true ∧ (p, v.hash) ∈ b.edges) ∨ (b.hasVertex p = false ∧ b.cpHasVertex p = true)

theorem ParentOK.congr {b b' : Book} {v : Vertex} {p : Hash} (hv : b'.verts = b.verts) (he : b'.edges = b.edges)
    (hc : b'.cpVerts = b.cpVerts) (h : ParentOK b v p) : ParentOK b' v p := by
  unfold ParentOK
  rw [hasVertex_congr hv, he, cpHasVertex_congr hc]
  exact h

/-- No declared link is missing: the converse of `EdgeInv.declared`, as far as the parents are still live. A zero left
parent is Go's `addedHash` sentinel: such a vertex declares no parents (see `edgesOf`). -/
def DagComplete (b : Book) : Prop :=
  ∀ v ∈ b.verts, v.left ≠ 0 → ParentOK b v v.left ∧ ParentOK b v v.right

theorem DagComplete.parentOK {b : Book} (h : DagComplete b) {v : Vertex} (hv : v ∈ b.verts) (hl : v.left ≠ 0) {p : Hash}
    (hp : p = v.left ∨ p = v.right) : ParentOK b v p := by
  rcases hp with rfl | rfl
  · exact (h v hv hl).1
  · exact (h v hv hl).2

theorem DagComplete.remove {b b' : Book} (h : DagComplete b) (gone : Hash → Bool)
    (hv : b'.verts = b.verts.filter (fun v => !gone v.hash))
    (he : b'.edges = b.edges.filter (fun e => !gone e.1 && !gone e.2))
    (hcp : ∀ p, b.cpHasVertex p = true → b'.cpHasVertex p = true)
    (hgone : ∀ p c, b.hasVertex p = true → (p, c) ∈ b.edges → gone p = true → gone c = false → b'.cpHasVertex p = true) :
    DagComplete b' := by
  have hlive := hasVertex_remove hv
  intro v hvm hl
  obtain ⟨hvm, hgv⟩ := List.mem_filter.1 (hv ▸ hvm)
  have key : ∀ p, ParentOK b v p → ParentOK b' v p := by
    rintro p (⟨hp, hedge⟩ | ⟨hp, hc⟩)
    · cases hg : gone p with
      | false => exact .inl ⟨(hlive p).2 ⟨hp, hg⟩, he ▸ List.mem_filter.2 ⟨hedge, by simpa [hg] using hgv⟩⟩
      | true =>
        exact .inr ⟨Bool.eq_false_iff.2 fun hh => by simp [((hlive p).1 hh).2] at hg,
          hgone p v.hash hp hedge hg (by simpa using hgv)⟩
    · exact .inr ⟨Bool.eq_false_iff.2 fun hh => by simp [((hlive p).1 hh).1] at hp, hcp p hc⟩
  exact (h v hvm hl).imp (key _) (key _)

theorem DagComplete.tr {b b' : Book} (h : DagComplete b) (t : Tr b b') : DagComplete b' := by
  cases t with
  | misc ce =>
    obtain ⟨e1, e2, _, e4, _⟩ := ce
    exact fun v hv hl => (h v (e1 ▸ hv) hl).imp (.congr e1 e2 e4) (.congr e1 e2 e4)
  | drop v0 hv0 hleaf =>
    refine h.remove (· == v0.hash) rfl rfl (fun _ => id) fun p c _ hedge hg _ => ?_
    -- a tip has no children
    rw [(isLeaf_eq_false b _).2 ⟨c, beq_iff_eq.1 hg ▸ hedge⟩] at hleaf; cases hleaf
  | insert v0 es ok hes hcomp hzero =>
    intro v hv hl
    rcases List.mem_append.1 hv with hv | hv
    · have key : ∀ p, ParentOK b v p →
          ParentOK { b with index := b.index ++ [(v0.trx.hash, v0.hash)], verts := b.verts ++ [v0], edges := b.edges ++ es } v p := by
        rintro p (⟨hp, hedge⟩ | ⟨hp, hc⟩)
        · exact .inl ⟨hasVertex_append b v0 p hp, List.mem_append_left _ hedge⟩
        · refine .inr ⟨?_, hc⟩
          -- the fresh vertex is not checkpointed, so `p` is not it
          have hne : (v0.hash == p) = false := Bool.eq_false_iff.2 fun e => by
            rw [← beq_iff_eq.1 e, ok.freshCp] at hc; cases hc
          exact (hasVertex_concat b v0 p).trans (by rw [hp, hne]; rfl)
      exact (h v hv hl).imp (key _) (key _)
    · obtain rfl := List.mem_singleton.1 hv
      obtain ⟨m1, m2, l1, l2⟩ := hcomp hl
      exact ⟨.inl ⟨hasVertex_append b v _ l1, List.mem_append_right _ m1⟩, .inl ⟨hasVertex_append b v _ l2, List.mem_append_right _ m2⟩⟩
  | unlink hx hfresh =>
    refine h.remove (· == hx) (filter_not_live hfresh).symm rfl (fun _ => id) fun p c hp _ hg _ => ?_
    rw [beq_iff_eq.1 hg, hfresh] at hp; cases hp

theorem DagComplete.truncate {b : Book} (h : DagComplete b) (cut : Hash) : DagComplete (b.truncateAt cut).1 := by
  rcases truncateAt_cases b cut with hb | ⟨hmv, _, hb⟩ <;> rw [hb]
  · exact h
  · refine h.remove (fun x => (b.ancestors cut).contains x) rfl rfl
      (fun p hp => by
        rw [cpHasVertex_iff] at hp ⊢
        exact hp.imp fun x hx => ⟨List.mem_append_left _ hx.1, hx.2⟩)
      fun p c _ _ hg _ => ?_
    -- a moved parent is in storage now
    obtain ⟨x, hx, hxe⟩ := List.mem_map.1 (hmv ▸ List.contains_iff_mem.1 hg)
    exact (cpHasVertex_iff _ p).2 ⟨x, List.mem_append_right _ hx, hxe⟩

theorem Reachable.dagComplete {b : Book} (r : Reachable b) : DagComplete b := by
  refine r.induct (fun _ _ => nofun) ?_ (fun _ ih t => ih.tr t) (fun cut _ ih => ih.truncate cut)
  -- genesis: `v` is the only vertex, and it declares no parents
  intro b v w t _ hv _ _ hgen _ x hx hl
  obtain rfl : x = v := by simpa [hv] using hx
  exact absurd hgen.1 hl

/-- What `EdgeInv.declared` leaves open: a vertex with a zero left parent declares no parents, whatever its right one
says, and no edge ends in it. So the edges into any live vertex `v` are among `edgesOf v`. -/
def RootsBare (b : Book) : Prop := ∀ v ∈ b.verts, v.left = 0 → ∀ e ∈ b.edges, e.2 ≠ v.hash

theorem RootsBare.anti {b b' : Book} (h : RootsBare b) (hv : ∀ v ∈ b'.verts, v ∈ b.verts) (he : ∀ e ∈ b'.edges, e ∈ b.edges) :
    RootsBare b' := fun v hvm hl e hm => h v (hv v hvm) hl e (he e hm)

theorem RootsBare.tr {b b' : Book} (h : RootsBare b) (he : EdgeInv b) (t : Tr b b') : RootsBare b' := by
  cases t with
  | misc ce => exact h.anti (fun _ hv => ce.1 ▸ hv) (fun _ hm => ce.2.1 ▸ hm)
  | drop v0 hv0 hleaf => exact h.anti (fun _ hv => (List.mem_filter.1 hv).1) (fun _ hm => (List.mem_filter.1 hm).1)
  | insert v0 es ok hes hcomp hzero =>
    intro v hv hl e hm
    rcases List.mem_append.1 hv with hv | hv <;> rcases List.mem_append.1 hm with hm | hm
    · exact h v hv hl e hm
    · -- new edges point to the fresh vertex
      rw [(hes e hm).1]; exact (ok.live_ne ((hasVertex_iff b _).2 ⟨v, hv, rfl⟩)).symm
    · -- old edges end in live vertices
      rw [List.mem_singleton.1 hv]; exact ok.live_ne (he.live e hm).2.1
    · rw [List.mem_singleton.1 hv] at hl; rw [hzero hl] at hm; cases hm
  | unlink hx hfresh => exact h.anti (fun _ hv => hv) (fun _ hm => (List.mem_filter.1 hm).1)

theorem Reachable.rootsBare {b : Book} (r : Reachable b) : RootsBare b := by
  refine r.induct (fun _ _ => nofun) ?_ (fun r ih t => ih.tr r.edgeInv t)
    (fun cut _ ih => ih.anti (truncateAt_sub _ cut).1 (truncateAt_sub _ cut).2)
  -- genesis: there was no vertex, so there is no edge
  intro b v w t r hv _ _ _ _ x _ _ e hm
  rw [r.edgeInv.no_edges hv] at hm
  cases hm

theorem Reachable.mem_edges_iff {b : Book} (r : Reachable b) (hcp : b.cpVerts = []) (e : Hash × Hash) :
    e ∈ b.edges ↔ ∃ v ∈ b.verts, e ∈ edgesOf v := by
  constructor
  · intro he
    obtain ⟨v, hv, hh, hp⟩ := r.edgeInv.declared e he
    refine ⟨v, hv, (mem_edgesOf v e).2 ⟨fun hz => r.rootsBare v hv hz e he hh.symm, ?_⟩⟩
    exact hp.imp (Prod.ext · hh.symm) (Prod.ext · hh.symm)
  · rintro ⟨v, hv, he⟩
    obtain ⟨hl, hp⟩ := (mem_edgesOf v e).1 he
    -- nothing is checkpointed, so a declared parent is live and linked
    have := (r.dagComplete.parentOK hv hl (hp.imp (congrArg Prod.fst) (congrArg Prod.fst))).elim (·.2) fun h => by
      obtain ⟨x, hx, _⟩ := (cpHasVertex_iff b _).1 h.2
      rw [hcp] at hx; cases hx
    rwa [← snd_of_mem_edgesOf he] at this

/-- `LoadDag` refuses a second vertex whose issuer is its signer; a reachable ledger has at most one (the genesis vertex:
the insertion guards refuse every other). -/
def SelfOne (b : Book) : Prop :=
  ∀ v ∈ b.verts, ∀ w ∈ b.verts, v.trx.issuer = v.signer → w.trx.issuer = w.signer → v = w

theorem SelfOne.of_sub {b b' : Book} (h : SelfOne b) (hs : ∀ v ∈ b'.verts, v.trx.issuer = v.signer → v ∈ b.verts) :
    SelfOne b' :=
  fun v hv w hw sv sw => h v (hs v hv sv) w (hs w hw sw) sv sw

theorem Reachable.selfOne {b : Book} (r : Reachable b) : SelfOne b := by
  refine r.induct (fun _ _ => nofun) ?_ (fun _ ih t => ih.of_sub fun x hx sx => ?_)
    (fun cut _ ih => ih.of_sub fun v hv _ => (truncateAt_sub _ cut).1 v hv)
  · -- genesis: `v` is the only vertex
    intro b v w t _ hv _ _ _ _ x hx y hy _ _
    rw [show x = v by simpa [hv] using hx, show y = v by simpa [hv] using hy]
  · exact (t.mem_verts hx).resolve_right fun ok => ok.notOwn sx

end CModel.Book
