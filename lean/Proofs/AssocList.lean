import CModel.Ledger
/-! Association lists keyed by address, as `fmSet` / `cpFundsSet` of the truncation write them: an existing
key is overwritten in place, a new one appended. -/
namespace CModel.Book
open CModel

def alSet {β} (l : List (Addr × β)) (a : Addr) (p : β) : List (Addr × β) :=
  if l.any (·.1 == a) then l.map (fun e => if e.1 == a then (a, p) else e) else l ++ [(a, p)]
def alGet {β} (l : List (Addr × β)) (a : Addr) : Option β := (l.find? (·.1 == a)).map (·.2)
def keys {β} (l : List (Addr × β)) : List Addr := l.map (·.1)

theorem fmSet_eq (m : List (Addr × Pre)) (a : Addr) (p : Pre) : fmSet m a p = alSet m a p := rfl
theorem cpFundsSet_eq (l : List (Addr × Melange)) (a : Addr) (s : Melange) : cpFundsSet l a s = alSet l a s := rfl
theorem fmGet_eq (m : List (Addr × Pre)) (a : Addr) : fmGet m a = (alGet m a).getD {} := rfl
theorem cpFundsGet_eq (b : Book) (a : Addr) : b.cpFundsGet a = alGet b.cpFunds a := rfl

theorem alGet_cons {β} (e : Addr × β) (l : List (Addr × β)) (b : Addr) :
    alGet (e :: l) b = if b = e.1 then some e.2 else alGet l b := by
  by_cases h : b = e.1
  · simp [alGet, h]
  · simp [alGet, h, Ne.symm h]

theorem alGet_append {β} (l l' : List (Addr × β)) (b : Addr) : alGet (l ++ l') b = (alGet l b).or (alGet l' b) := by
  unfold alGet; rw [List.find?_append, Option.map_or]

theorem any_key {β} (l : List (Addr × β)) (a : Addr) : l.any (·.1 == a) = true ↔ a ∈ keys l := by
  simp only [keys, List.any_eq_true, List.mem_map, beq_iff_eq]

theorem alGet_eq_none {β} {l : List (Addr × β)} {a : Addr} : alGet l a = none ↔ a ∉ keys l := by
  simp only [alGet, keys, Option.map_eq_none_iff, List.find?_eq_none, List.mem_map, beq_iff_eq, not_exists, not_and]

theorem mem_of_alGet {β} {l : List (Addr × β)} {a : Addr} {v : β} (h : alGet l a = some v) : (a, v) ∈ l := by
  obtain ⟨e, hf, rfl⟩ := Option.map_eq_some_iff.1 h
  obtain rfl : e.1 = a := by simpa using List.find?_some hf
  exact List.mem_of_find?_eq_some hf

theorem mem_keys_of_alGet {β} (l : List (Addr × β)) (a : Addr) (v : β) (h : alGet l a = some v) : a ∈ keys l :=
  List.mem_map.2 ⟨_, mem_of_alGet h, rfl⟩

theorem forall_getD_alGet {β} {P : β → Prop} {l : List (Addr × β)} (hl : ∀ e ∈ l, P e.2) {d : β} (hd : P d) (a : Addr) :
    P ((alGet l a).getD d) := by
  cases hg : alGet l a with
  | none => exact hd
  | some v => exact hl (a, v) (mem_of_alGet hg)

theorem alGet_map_replace {β} (l : List (Addr × β)) (a b : Addr) (p : β) :
    alGet (l.map (fun e => if e.1 == a then (a, p) else e)) b =
      if b = a then (alGet l a).map (fun _ => p) else alGet l b := by
  induction l with
  | nil => simp [alGet]
  | cons e l ih =>
    rw [List.map_cons, alGet_cons, ih, alGet_cons, alGet_cons]
    by_cases hea : e.1 = a
    · by_cases hba : b = a <;> simp [hea, hba]
    · by_cases hba : b = a <;> simp [hea, Ne.symm hea, hba]

theorem alGet_alSet {β} (l : List (Addr × β)) (a b : Addr) (p : β) :
    alGet (alSet l a p) b = if b = a then some p else alGet l b := by
  fun_cases alSet l a p
  case case1 h =>
    rw [alGet_map_replace]
    cases hv : alGet l a with
    | none => exact absurd ((any_key l a).1 h) (alGet_eq_none.1 hv)
    | some v => rfl
  case case2 h =>
    rw [alGet_append, alGet_cons]
    by_cases hba : b = a
    · subst hba; rw [alGet_eq_none.2 (mt (any_key l b).2 h)]; simp
    · simp [hba, alGet]

theorem keys_alSet {β} (l : List (Addr × β)) (a : Addr) (p : β) :
    keys (alSet l a p) = if a ∈ keys l then keys l else keys l ++ [a] := by
  fun_cases alSet l a p
  case case1 h =>
    rw [if_pos ((any_key l a).1 h), keys, List.map_map]
    exact List.map_congr_left fun e _ => by by_cases he : e.1 = a <;> simp [he]
  case case2 h =>
    rw [if_neg (mt (any_key l a).2 h), keys, List.map_append]
    rfl

theorem keys_alSet_nodup {β} (l : List (Addr × β)) (a : Addr) (p : β) (h : (keys l).Nodup) : (keys (alSet l a p)).Nodup := by
  rw [keys_alSet]
  by_cases hm : a ∈ keys l
  · rw [if_pos hm]; exact h
  · rw [if_neg hm]; exact (List.perm_append_singleton a _).nodup_iff.2 (List.nodup_cons.2 ⟨hm, h⟩)

theorem forall_alSet {β} {P : β → Prop} (l : List (Addr × β)) (a : Addr) (p : β) (hl : ∀ e ∈ l, P e.2) (hp : P p) :
    ∀ e ∈ alSet l a p, P e.2 := by
  fun_cases alSet l a p
  case case1 =>
    intro e he
    obtain ⟨x, hx, rfl⟩ := List.mem_map.1 he
    by_cases hxa : (x.1 == a) = true
    · rw [if_pos hxa]; exact hp
    · rw [if_neg hxa]; exact hl x hx
  case case2 =>
    intro e he
    rcases List.mem_append.1 he with h | h
    · exact hl e h
    · rw [List.mem_singleton.1 h]; exact hp

theorem alGet_foldl_alSet {β γ} (fm : List (Addr × γ)) (f : γ → β) (l0 : List (Addr × β)) (a : Addr) (hn : (keys fm).Nodup) :
    alGet (fm.foldl (fun l e => alSet l e.1 (f e.2)) l0) a = ((alGet fm a).map f).or (alGet l0 a) := by
  induction fm generalizing l0 with
  | nil => rfl
  | cons e fm ih =>
    obtain ⟨hne, hn'⟩ := List.nodup_cons.1 hn
    rw [List.foldl_cons, ih _ hn', alGet_alSet, alGet_cons]
    by_cases hea : a = e.1
    · -- the keys of `fm` are distinct: what its first entry writes is not overwritten by the rest
      rw [if_pos hea, if_pos hea, hea, alGet_eq_none.2 hne]; rfl
    · rw [if_neg hea, if_neg hea]

theorem keys_foldl_alSet_nodup {β γ} (fm : List (Addr × γ)) (f : γ → β) (l0 : List (Addr × β)) (h : (keys l0).Nodup) :
    (keys (fm.foldl (fun l e => alSet l e.1 (f e.2)) l0)).Nodup :=
  List.foldlRecOn (motive := fun l => (keys l).Nodup) fm _ h fun l hl e _ => keys_alSet_nodup l e.1 (f e.2) hl

theorem keys_map_val {β γ} (l : List (Addr × β)) (f : β → γ) : keys (l.map fun e => (e.1, f e.2)) = keys l := by
  simp [keys, List.map_map, Function.comp_def]

theorem alGet_map_val {β γ} (l : List (Addr × β)) (f : β → γ) (a : Addr) :
    alGet (l.map fun e => (e.1, f e.2)) a = (alGet l a).map f := by
  induction l with
  | nil => rfl
  | cons e l ih =>
    rw [List.map_cons, alGet_cons, alGet_cons, ih]
    by_cases h : a = e.1 <;> simp [h]

end CModel.Book
