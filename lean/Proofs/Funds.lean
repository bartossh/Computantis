import Proofs.SpiceProofs
import Proofs.LedgerBasic
import Proofs.AssocList
/-! The `Melange` folds of validateLeaf / CalculateBalance as sums in `Nat`: each is exact, or fails for a named reason. -/
namespace CModel.Book
open CModel CModel.Melange

/-- What a vertex pays into `a` / takes out of `a`. A non-spice transaction carries the empty
amount, whose value is 0, so no case distinction on `isSpice` is needed in the specification. -/
def inAmt (a : Addr) (v : Vertex) : Nat := if v.trx.receiver == a then val v.trx.spice else 0
def outAmt (a : Addr) (v : Vertex) : Nat := if v.trx.issuer == a then val v.trx.spice else 0
def inflow (a : Addr) (vs : List Vertex) : Nat := (vs.map (inAmt a)).sum
def outflow (a : Addr) (vs : List Vertex) : Nat := (vs.map (outAmt a)).sum

/-- The vertices a walk over the hashes `hs` visits. -/
def visited (b : Book) (hs : List Hash) : List Vertex := hs.filterMap b.getVertex

/-- The set a balance query / a validation walks: the tip and its ancestors. -/
def walk (b : Book) (tip : Vertex) : List Vertex := tip :: visited b (b.ancestors tip.hash)

def cpVal (b : Book) (a : Addr) : Nat := val ((b.cpFundsGet a).getD Melange.zero)

structure FundsOK (b : Book) : Prop where
  verts : ∀ v ∈ b.verts, Canon v.trx.spice
  cp : ∀ e ∈ b.cpFunds, Canon e.2

theorem inflow_cons (a : Addr) (v : Vertex) (vs : List Vertex) : inflow a (v :: vs) = inAmt a v + inflow a vs := by
  simp [inflow]
theorem outflow_cons (a : Addr) (v : Vertex) (vs : List Vertex) : outflow a (v :: vs) = outAmt a v + outflow a vs := by
  simp [outflow]
theorem inflow_append (a : Addr) (l l' : List Vertex) : inflow a (l ++ l') = inflow a l + inflow a l' := by
  unfold inflow; simp [List.map_append, List.sum_append]
theorem outflow_append (a : Addr) (l l' : List Vertex) : outflow a (l ++ l') = outflow a l + outflow a l' := by
  unfold outflow; simp [List.map_append, List.sum_append]
theorem inflow_perm {a : Addr} {l l' : List Vertex} (p : l.Perm l') : inflow a l = inflow a l' := by
  unfold inflow; exact (p.map _).sum_nat
theorem outflow_perm {a : Addr} {l l' : List Vertex} (p : l.Perm l') : outflow a l = outflow a l' := by
  unfold outflow; exact (p.map _).sum_nat

theorem mem_visited {b : Book} (hnd : (b.verts.map (·.hash)).Nodup) {hs : List Hash} {v : Vertex} :
    v ∈ visited b hs ↔ v ∈ b.verts ∧ v.hash ∈ hs := by
  refine List.mem_filterMap.trans ⟨fun ⟨x, hx, hg⟩ => ?_, fun ⟨hv, hx⟩ => ⟨_, hx, getVertex_of_mem hnd hv⟩⟩
  obtain ⟨hv, rfl⟩ := getVertex_mem hg
  exact ⟨hv, hx⟩

theorem visited_sub (b : Book) (hs : List Hash) : ∀ v ∈ visited b hs, v ∈ b.verts := fun _ hv =>
  let ⟨_, _, hg⟩ := List.mem_filterMap.1 hv
  (getVertex_mem hg).1

theorem visited_nodup (b : Book) {hs : List Hash} (h : hs.Nodup) : (visited b hs).Nodup :=
  nodup_filterMap_inj _ _ h fun _ _ _ h1 h2 => (getVertex_mem h1).2.symm.trans (getVertex_mem h2).2

theorem cpFundsGet_canon {b : Book} (h : ∀ e ∈ b.cpFunds, Canon e.2) (a : Addr) :
    Canon ((b.cpFundsGet a).getD Melange.zero) :=
  forall_getD_alGet (P := Canon) h canon_zero a

theorem val_spice_of_not_isSpice {t : Trx} (h : t.isSpice = false) : val t.spice = 0 :=
  empty_val (by simpa [Trx.isSpice] using h)

theorem pourFunds_cases (a : Addr) (v : Vertex) (io : Melange × Melange)
    (h1 : Canon io.1) (h2 : Canon io.2) (hv : Canon v.trx.spice) :
    (∃ io', pourFunds a v io = .ok io' ∧ val io'.1 = val io.1 + inAmt a v ∧ val io'.2 = val io.2 + outAmt a v ∧
        Canon io'.1 ∧ Canon io'.2) ∨
    (pourFunds a v io = .error [.unexpected, .overflow] ∧
        (val io.1 + inAmt a v ≥ capacity ∨ val io.2 + outAmt a v ≥ capacity)) := by
  unfold pourFunds inAmt outAmt
  cases hs : v.trx.isSpice
  · rw [Bool.not_false, if_pos rfl]
    simp only [val_spice_of_not_isSpice hs, ite_self, Nat.add_zero]
    exact .inl ⟨io, rfl, rfl, rfl, h1, h2⟩
  · cases hi : (v.trx.issuer == a) <;> cases hr : (v.trx.receiver == a) <;>
      simp only [Bool.not_true, Bool.false_eq_true, if_false, if_true, Nat.add_zero]
    · exact .inl ⟨io, rfl, rfl, rfl, h1, h2⟩
    · rcases supply_cases io.1 v.trx.spice h1 hv with ⟨i', hi', hiv, hic⟩ | ⟨hi', hge⟩ <;> rw [hi']
      · exact .inl ⟨_, rfl, hiv, rfl, hic, h2⟩
      · exact .inr ⟨rfl, .inl hge⟩
    · rcases supply_cases io.2 v.trx.spice h2 hv with ⟨o', ho, hov, hoc⟩ | ⟨ho, hge⟩ <;> rw [ho]
      · exact .inl ⟨_, rfl, rfl, hov, h1, hoc⟩
      · exact .inr ⟨rfl, .inr hge⟩
    · rcases supply_cases io.2 v.trx.spice h2 hv with ⟨o', ho, hov, hoc⟩ | ⟨ho, hge⟩ <;> rw [ho]
      · rcases supply_cases io.1 v.trx.spice h1 hv with ⟨i', hi', hiv, hic⟩ | ⟨hi', hge⟩ <;> simp only [hi']
        · exact .inl ⟨_, rfl, hiv, hov, hic, hoc⟩
        · exact .inr ⟨trivial, .inl hge⟩
      · exact .inr ⟨rfl, .inr hge⟩

theorem foldFunds_cons (b : Book) (a : Addr) (h : Hash) (hs : List Hash) (io : Melange × Melange)
    (wrap : Err → Err) (leaf : Option Vertex) :
    foldFunds b a (h :: hs) io wrap leaf =
      match b.getVertex h with
      | none => .error [.unexpected, .idUnknown]
      | some v =>
        if badParent leaf v then .error [.leafRejected]
        else match pourFunds a v io with
          | .ok io' => foldFunds b a hs io' wrap leaf
          | .error e => .error (wrap e) := by
  rw [foldFunds]
  rfl

theorem foldFunds_cases (b : Book) (a : Addr) (wrap : Err → Err) (leaf : Option Vertex)
    (hcan : ∀ v ∈ b.verts, Canon v.trx.spice) (hs : List Hash) (io : Melange × Melange) (h1 : Canon io.1) (h2 : Canon io.2) :
    (∃ io', foldFunds b a hs io wrap leaf = .ok io' ∧
      val io'.1 = val io.1 + inflow a (visited b hs) ∧ val io'.2 = val io.2 + outflow a (visited b hs) ∧
      Canon io'.1 ∧ Canon io'.2 ∧ (visited b hs).length = hs.length) ∨
    (∃ e, foldFunds b a hs io wrap leaf = .error e ∧
      ((visited b hs).length < hs.length ∨ (∃ v ∈ visited b hs, badParent leaf v = true) ∨
       val io.1 + inflow a (visited b hs) ≥ capacity ∨ val io.2 + outflow a (visited b hs) ≥ capacity)) := by
  induction hs generalizing io with
  | nil => exact .inl ⟨io, by rw [foldFunds], by simp [visited, inflow], by simp [visited, outflow], h1, h2, rfl⟩
  | cons x xs ih =>
    rw [foldFunds_cons]
    cases hg : b.getVertex x with
    | none =>
      have hvis : visited b (x :: xs) = visited b xs := by simp [visited, hg]
      exact .inr ⟨_, rfl, .inl (by rw [hvis]; exact Nat.lt_succ_of_le (List.length_filterMap_le _ _))⟩
    | some v =>
      have hvis : visited b (x :: xs) = v :: visited b xs := by simp [visited, hg]
      simp only [hvis, inflow_cons, outflow_cons, ← Nat.add_assoc, List.length_cons, Nat.add_right_cancel_iff,
        Nat.add_lt_add_iff_right, List.mem_cons, exists_eq_or_imp]
      by_cases hbad : badParent leaf v = true
      · rw [if_pos hbad]
        exact .inr ⟨_, rfl, .inr (.inl (.inl hbad))⟩
      · rw [if_neg hbad]
        rcases pourFunds_cases a v io h1 h2 (hcan v (getVertex_mem hg).1) with ⟨io1, hp, e1, e2, c1, c2⟩ | ⟨hp, hov⟩ <;>
          rw [hp]
        · -- the sums after `v` are the starting sums for the rest of the walk
          rw [← e1, ← e2]
          exact (ih io1 c1 c2).imp id fun ⟨e, hf, r⟩ => ⟨e, hf, r.imp_right (.imp_left .inr)⟩
        · exact .inr ⟨_, rfl, .inr (.inr (hov.imp Nat.le_add_right_of_le Nat.le_add_right_of_le))⟩

theorem walkFunds_cases (b : Book) (a : Addr) (tip : Vertex) (io0 : Melange × Melange) (wrap : Err → Err)
    (leaf : Option Vertex) (hcan : ∀ v ∈ b.verts, Canon v.trx.spice) (htip : Canon tip.trx.spice)
    (h1 : Canon io0.1) (h2 : Canon io0.2) :
    (∃ io, walkFunds b a tip io0 wrap leaf = .ok io ∧
        val io.1 = val io0.1 + inflow a (walk b tip) ∧ val io.2 = val io0.2 + outflow a (walk b tip) ∧
        Canon io.1 ∧ Canon io.2 ∧ (visited b (b.ancestors tip.hash)).length = (b.ancestors tip.hash).length) ∨
    (∃ e, walkFunds b a tip io0 wrap leaf = .error e ∧
        ((visited b (b.ancestors tip.hash)).length < (b.ancestors tip.hash).length ∨
         (∃ v ∈ visited b (b.ancestors tip.hash), badParent leaf v = true) ∨
         val io0.1 + inflow a (walk b tip) ≥ capacity ∨ val io0.2 + outflow a (walk b tip) ≥ capacity)) := by
  unfold walkFunds walk
  rw [inflow_cons, outflow_cons, ← Nat.add_assoc, ← Nat.add_assoc]
  rcases pourFunds_cases a tip io0 h1 h2 htip with ⟨io1, hp, e1, e2, c1, c2⟩ | ⟨hp, hov⟩ <;> rw [hp]
  · rw [← e1, ← e2]
    exact foldFunds_cases b a wrap leaf hcan (b.ancestors tip.hash) io1 c1 c2
  · exact .inr ⟨_, rfl, .inr (.inr (hov.imp Nat.le_add_right_of_le Nat.le_add_right_of_le))⟩

theorem balFinish_cases (cp : Melange) (io : Melange × Melange) (hc : Canon cp) (h1 : Canon io.1) (h2 : Canon io.2) :
    (∃ m, balFinish cp io = .ok m ∧ val m + val io.2 = val cp + val io.1 ∧ Canon m ∧ val cp + val io.1 < capacity) ∨
    (∃ e, balFinish cp io = .error e ∧ (val cp + val io.1 < val io.2 ∨ val cp + val io.1 ≥ capacity)) := by
  unfold balFinish
  rcases supply_cases cp io.1 hc h1 with ⟨s1, hs1, hs1v, hs1c⟩ | ⟨hs1, hge⟩ <;> rw [hs1]
  · rw [← hs1v]
    rcases drain_zero_cases s1 io.2 hs1c h2 with ⟨f, t, ht, ht1, htc⟩ | ⟨ht, hlt⟩ <;> simp only [ht]
    · exact .inl ⟨f, rfl, ht1, htc, val_lt_capacity s1 hs1c⟩
    · exact .inr ⟨_, rfl, .inl hlt⟩
  · exact .inr ⟨_, rfl, .inr hge⟩

/-- C06. The bound that comes with a result says that no partial sum of the query left the representable range
(what `Props.C07.balance_unchanged_above_cut` needs of the query before the truncation). -/
theorem calculateBalance_cases {b : Book} (h : FundsOK b) (tip : Vertex) (htip : Canon tip.trx.spice) (a : Addr) :
    (∃ m, b.calculateBalance tip a = .ok m ∧
        val m + outflow a (walk b tip) = cpVal b a + inflow a (walk b tip) ∧ Canon m ∧
        (visited b (b.ancestors tip.hash)).length = (b.ancestors tip.hash).length ∧
        cpVal b a + inflow a (walk b tip) < capacity) ∨
    (∃ e, b.calculateBalance tip a = .error e ∧
        (cpVal b a + inflow a (walk b tip) < outflow a (walk b tip) ∨
         (visited b (b.ancestors tip.hash)).length < (b.ancestors tip.hash).length ∨
         inflow a (walk b tip) ≥ capacity ∨ outflow a (walk b tip) ≥ capacity ∨
         cpVal b a + inflow a (walk b tip) ≥ capacity)) := by
  unfold calculateBalance
  rcases walkFunds_cases b a tip (Melange.zero, Melange.zero) id none h.verts htip canon_zero canon_zero with
    ⟨io, hw, e1, e2, c1, c2, hlen⟩ | ⟨e, hw, herr⟩ <;> rw [hw]
  · simp only [val_zero, Nat.zero_add] at e1 e2
    rw [← e1, ← e2]
    rcases balFinish_cases ((b.cpFundsGet a).getD Melange.zero) io (cpFundsGet_canon h.cp a) c1 c2 with
      ⟨m, hm, hv, hc, hb⟩ | ⟨e, hm, hv | hv⟩
    · exact .inl ⟨m, hm, hv, hc, hlen, hb⟩
    · exact .inr ⟨e, hm, .inl hv⟩
    · exact .inr ⟨e, hm, .inr (.inr (.inr (.inr hv)))⟩
  · simp only [val_zero, Nat.zero_add] at herr
    rcases herr with r | ⟨_, _, hb⟩ | r | r
    · exact .inr ⟨e, rfl, .inr (.inl r)⟩
    · cases hb
    · exact .inr ⟨e, rfl, .inr (.inr (.inl r))⟩
    · exact .inr ⟨e, rfl, .inr (.inr (.inr (.inl r)))⟩

theorem ancestors_congr {b b' : Book} (hv : b'.verts = b.verts) (he : b'.edges = b.edges) : b'.ancestors = b.ancestors := by
  have hpar : b'.parentsOf = b.parentsOf := funext fun x => by rw [parentsOf, he]; rfl
  have hbfs : ∀ n f v, bfs b' n f v = bfs b n f v := by
    intro n
    induction n with
    | zero => intro f v; rfl
    | succ k ih => intro f v; simp only [bfs, hpar, ih]
  funext h
  rw [ancestors, hpar, hv, hbfs]
  rfl

theorem foldFunds_congr {b b' : Book} (hv : b'.verts = b.verts) : foldFunds b' = foldFunds b := by
  have hget : b'.getVertex = b.getVertex := funext fun x => by rw [getVertex, hv]; rfl
  funext a hs io wrap leaf
  induction hs generalizing io with
  | nil => rw [foldFunds, foldFunds]
  | cons x xs ih => simp only [foldFunds_cons, hget, ih]

/-- C06. The query reads the book through `parentsOf` and the number of vertices (the walk over the ancestors),
`getVertex` (the fold over what the walk found) and the checkpointed funds. -/
theorem calculateBalance_congr {b b' : Book} (hv : b'.verts = b.verts) (he : b'.edges = b.edges)
    (hc : b'.cpFunds = b.cpFunds) (tip : Vertex) (a : Addr) : b'.calculateBalance tip a = b.calculateBalance tip a := by
  unfold calculateBalance walkFunds cpFundsGet
  rw [ancestors_congr hv he, foldFunds_congr hv, hc]

theorem checkSufficient_cases (io : Melange × Melange) (h1 : Canon io.1) (h2 : Canon io.2) :
    (checkSufficient io = .ok () ∧ val io.2 ≤ val io.1) ∨
    (∃ e, checkSufficient io = .error e ∧ val io.1 < val io.2) := by
  unfold checkSufficient
  rcases drain_zero_cases io.1 io.2 h1 h2 with ⟨f, t, ht, ht1, _⟩ | ⟨ht, hlt⟩ <;> rw [ht]
  · exact .inl ⟨rfl, Nat.le.intro ((Nat.add_comm _ _).trans ht1)⟩
  · exact .inr ⟨_, rfl, hlt⟩

theorem validateFunds_cases {b : Book} (h : FundsOK b) (leaf : Vertex) (hleaf : Canon leaf.trx.spice) :
    (validateFunds b leaf = .ok () ∧
        outflow leaf.trx.issuer (walk b leaf) ≤ cpVal b leaf.trx.issuer + inflow leaf.trx.issuer (walk b leaf)) ∨
    (∃ e, validateFunds b leaf = .error e ∧
        (cpVal b leaf.trx.issuer + inflow leaf.trx.issuer (walk b leaf) < outflow leaf.trx.issuer (walk b leaf) ∨
         (visited b (b.ancestors leaf.hash)).length < (b.ancestors leaf.hash).length ∨
         (∃ v ∈ visited b (b.ancestors leaf.hash), badParent (some leaf) v = true) ∨
         cpVal b leaf.trx.issuer + inflow leaf.trx.issuer (walk b leaf) ≥ capacity ∨
         outflow leaf.trx.issuer (walk b leaf) ≥ capacity)) := by
  unfold validateFunds cpVal
  -- the running inflow starts from the checkpointed funds: `0 + checkpoint` cannot overflow
  rcases supply_cases Melange.zero ((b.cpFundsGet leaf.trx.issuer).getD Melange.zero) canon_zero
      (cpFundsGet_canon h.cp leaf.trx.issuer) with ⟨s, hs, hsv, hsc⟩ | ⟨_, hge⟩
  · rw [val_zero, Nat.zero_add] at hsv
    rw [hs, ← hsv]
    rcases walkFunds_cases b leaf.trx.issuer leaf (s, Melange.zero) (fun e => Tag.transferFailure :: e) (some leaf)
        h.verts hleaf hsc canon_zero with ⟨io, hw, e1, e2, c1, c2, _⟩ | ⟨e, hw, herr⟩ <;> simp only [hw]
    · simp only [val_zero, Nat.zero_add] at e2
      rw [← e1, ← e2]
      rcases checkSufficient_cases io c1 c2 with ⟨hc, hle⟩ | ⟨e, hc, hlt⟩ <;> rw [hc]
      · exact .inl ⟨rfl, hle⟩
      · exact .inr ⟨_, rfl, .inl hlt⟩
    · simp only [val_zero, Nat.zero_add] at herr
      exact .inr ⟨e, rfl, .inr herr⟩
  · have := val_lt_capacity _ (cpFundsGet_canon h.cp leaf.trx.issuer)
    rw [val_zero, Nat.zero_add] at hge
    exact absurd hge (Nat.not_le.2 this)

/-- C01: the funds branch of validateLeaf succeeds only if checkpoint + inflow covers the issuer's outflow
(the validated transfer included) over the leaf and its ancestors. -/
theorem validateFunds_ok {b : Book} (h : FundsOK b) (leaf : Vertex) (hleaf : Canon leaf.trx.spice)
    (hr : validateFunds b leaf = .ok ()) :
    outflow leaf.trx.issuer (walk b leaf) ≤ cpVal b leaf.trx.issuer + inflow leaf.trx.issuer (walk b leaf) := by
  rcases validateFunds_cases h leaf hleaf with ⟨_, hle⟩ | ⟨e, he, _⟩
  · exact hle
  · rw [he] at hr; cases hr

/-- C01, the converse: when no running sum leaves the representable range, every ancestor hash resolves and
the parents verify, a covered transfer passes the fund check. -/
theorem validateFunds_complete {b : Book} (h : FundsOK b) (leaf : Vertex) (hleaf : Canon leaf.trx.spice)
    (hres : (visited b (b.ancestors leaf.hash)).length = (b.ancestors leaf.hash).length)
    (hvok : ∀ v ∈ b.verts, v.vok = true)
    (hin : cpVal b leaf.trx.issuer + inflow leaf.trx.issuer (walk b leaf) < capacity)
    (hout : outflow leaf.trx.issuer (walk b leaf) < capacity)
    (hcov : outflow leaf.trx.issuer (walk b leaf) ≤ cpVal b leaf.trx.issuer + inflow leaf.trx.issuer (walk b leaf)) :
    validateFunds b leaf = .ok () := by
  rcases validateFunds_cases h leaf hleaf with ⟨hok, _⟩ | ⟨e, _, r | r | ⟨v, hv, hb⟩ | r | r⟩
  · exact hok
  · exact absurd r (Nat.not_lt.2 hcov)
  · exact absurd r (hres ▸ Nat.lt_irrefl _)
  · obtain ⟨x, _, hx⟩ := List.mem_filterMap.1 hv
    simp [badParent, hvok v (getVertex_mem hx).1] at hb
  · exact absurd hin (Nat.not_lt.2 r)
  · exact absurd hout (Nat.not_lt.2 r)

end CModel.Book
