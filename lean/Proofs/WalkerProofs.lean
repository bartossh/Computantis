import CModel.Walker
/-! C08: the draining exit policy can never wedge. -/
namespace CModel.Walker

def drainCfg (nested : Bool) : Cfg := { policy := .drain, nested := nested, writerEarly := false }

/-- Invariant of the system with the draining policy and writers excluded while the consumer runs. -/
structure DInv (s : St) : Prop where
  readers : s.readers = if s.pp = 1 ∨ s.pp = 2 ∨ s.pp = 3 then 1 else 0
  closed : s.closed = true ↔ s.pp = 4
  sig : s.sig = false
  panic : s.panic = false
  ww : s.ww = true → s.cp = 2
  wd : s.wd = true → s.cp = 2
  left : s.cp = 2 → s.pp = 4
  pcP : s.pp ≤ 4
  pcC : s.cp ≤ 3

/- Each step lemma follows the cases of the step function (`fun_cases`) with the state taken apart, so
that the program counters are literals and every clause a step does not touch is inherited as it stands
(`{ h with .. }`): the fields named in a case are what that transition has to re-establish. -/

theorem DInv.producer {s s' : St} (h : DInv s) : stepP s = some s' → DInv s' := by
  obtain ⟨rem, pp, cp, got, k, readers, ww, wd, sig, closed, panic⟩ := s
  fun_cases stepP _ <;> intro hs <;> cases hs
  case case2 p _ => -- 0 → 1, RLock
    cases p
    exact { h with
      readers := congrArg (· + 1) h.readers
      closed := by simpa using h.closed
      left := by simpa using h.left
      pcP := by simp }
  case case3 p _ | case5 p _ _ | case7 p _ _ => -- 1 → 3, 1 → 2, 2 → 1 (draining consumer): only the pc moves
    cases p
    exact { h with
      closed := by simpa using h.closed
      left := by simpa using h.left
      pcP := by simp }
  case case4 p _ _ => -- 1 → 3, stop signal taken
    cases p
    exact { h with
      closed := by simpa using h.closed
      sig := rfl
      left := by simpa using h.left
      pcP := by simp }
  case case6 p c => -- 2 → 1, handover to the waiting consumer: it has not left, so no writer is around
    cases p; cases c
    exact { h with
      closed := by simpa using h.closed
      ww := by simpa using h.ww
      wd := by simpa using h.wd
      left := nofun
      pcP := by simp
      pcC := by simp }
  case case9 p => -- 3 → 4, RUnlock and close
    cases p
    exact { h with
      readers := congrArg (· - 1) h.readers
      closed := by simp
      left := fun _ => rfl
      pcP := by simp }

theorem DInv.consumer {c : Cfg} (hp : c.policy = .drain) {s s' : St} (h : DInv s) :
    stepC c s = some s' → DInv s' := by
  obtain ⟨rem, pp, cp, got, k, readers, ww, wd, sig, closed, panic⟩ := s
  fun_cases stepC c _ <;> intro hs <;> cases hs
  case case1 _ cl | case10 _ cl => -- 0 → 2, 3 → 2: the channel is closed, hence the producer done
    exact { h with
      ww := fun _ => rfl
      wd := fun _ => rfl
      left := fun _ => h.closed.1 cl
      pcC := by simp }
  case case4 q | case5 q _ | case7 q _ _ => cases hp.symm.trans q
  case case8 p _ _ _ | case9 p _ _ => -- 1 → 3 (leaving: drain), 1 → 0: it has not left, so no writer is around
    cases p
    exact { h with
      ww := by simpa using h.ww
      wd := by simpa using h.wd
      left := nofun
      pcC := by simp }

/-- with writers excluded while the consumer runs, the guard of `stepW` for a writer to arrive is that it has returned -/
theorem stepW_guard {c : Cfg} (he : c.writerEarly = false) (s : St) :
    (c.writerEarly || decide (s.cp = 2)) = true ↔ s.cp = 2 := by
  rw [he, Bool.false_or, decide_eq_true_iff]

theorem DInv.writer {c : Cfg} (he : c.writerEarly = false) {s s' : St} (h : DInv s) :
    stepW c s = some s' → DInv s' := by
  fun_cases stepW c s <;> intro hs <;> cases hs
  case case2 w _ => exact { h with ww := fun _ => h.ww w, wd := fun _ => h.ww w }
  case case4 e => exact { h with ww := fun _ => (stepW_guard he s).mp e }

theorem dinv_reach (nested : Bool) (n k : Nat) (s : St) (r : Reach (drainCfg nested) n k s) : DInv s := by
  induction r with
  | init => constructor <;> simp [init]
  | step t _ hs ih =>
    cases t with
    | P => exact ih.producer hs
    | C => exact ih.consumer rfl hs
    | W => exact ih.writer rfl hs

theorem DInv.producer_blocked {s : St} (h : DInv s) : stepP s = none → s.pp = 4 ∨ s.cp ≠ 0 ∧ s.cp ≠ 3 := by
  fun_cases stepP s <;> intro hP <;> try cases hP
  case case1 _ w => exact .inl (h.left (h.ww w)) -- RLock behind a waiting writer: the writer waits only once all is over
  case case8 _ c0 c3 => exact .inr ⟨c0, c3⟩ -- `ids <- id`: the consumer is neither waiting nor draining
  case case10 p0 p1 p2 p3 => -- the pc is none of 0 … 3, and at most 4
    exact .inl <| Nat.le_antisymm h.pcP <| Nat.lt_of_le_of_ne (Nat.lt_of_le_of_ne
      (Nat.lt_of_le_of_ne (Nat.pos_of_ne_zero p0) (Ne.symm p1)) (Ne.symm p2)) (Ne.symm p3)

theorem DInv.consumer_blocked {c : Cfg} (hp : c.policy = .drain) {s : St} (h : DInv s) :
    stepC c s = none → s.cp = 2 ∨ (s.cp = 0 ∨ s.cp = 3) ∧ s.closed = false := by
  fun_cases stepC c s <;> intro hC <;> try cases hC
  case case2 p cl => exact .inr ⟨.inl p, Bool.eq_false_iff.2 cl⟩ -- waiting in `range ids`, not closed
  case case3 _ w => exact .inl (h.ww (Bool.and_eq_true_iff.1 w).2) -- nested RLock behind a waiting writer
  case case6 q _ _ => cases hp.symm.trans q -- `signalOnly` blocked on a full signal channel
  case case11 p cl => exact .inr ⟨.inr p, Bool.eq_false_iff.2 cl⟩ -- draining, not closed
  case case12 p0 p1 p3 => -- the pc is none of 0, 1, 3, and at most 3
    exact .inl <| Nat.le_antisymm (Nat.le_of_lt_succ (Nat.lt_of_le_of_ne h.pcC p3))
      (Nat.lt_of_le_of_ne (Nat.pos_of_ne_zero p0) (Ne.symm p1))

theorem writer_blocked {c : Cfg} (he : c.writerEarly = false) {s : St} :
    stepW c s = none → s.wd = true ∨ s.readers ≠ 0 ∨ s.cp ≠ 2 := by
  fun_cases stepW c s <;> intro hW <;> try cases hW
  case case1 w => exact .inl w
  case case3 _ _ r => exact .inr (.inl r)
  case case5 _ _ e => exact .inr (.inr (mt (stepW_guard he s).mpr e))

/-- **C08 drain safety**: for every number of ancestors `n`, every exit point `k`, with or without
nested read locks, every reachable state of the draining system in which no thread can move is the
terminated state: producer finished, consumer returned, writer done, no reader left, no panic. -/
theorem drain_safe (nested : Bool) (n k : Nat) (s : St) (r : Reach (drainCfg nested) n k s)
    (hst : stuck (drainCfg nested) s = true) :
    terminated s = true ∧ s.readers = 0 ∧ s.panic = false := by
  have h := dinv_reach nested n k s r
  simp only [stuck, Bool.and_eq_true, Option.isNone_iff_eq_none] at hst
  obtain ⟨⟨hP, hC⟩, hW⟩ := hst
  have hC := h.consumer_blocked rfl hC
  have hpp : s.pp = 4 := by
    rcases h.producer_blocked hP with e | ⟨c0, c3⟩
    · exact e
    · rcases hC with e | ⟨c | c, -⟩
      · exact h.left e
      · exact absurd c c0
      · exact absurd c c3
  have hcp : s.cp = 2 := by
    rcases hC with e | ⟨-, cl⟩
    · exact e
    · rw [h.closed.2 hpp] at cl; cases cl
  have hr : s.readers = 0 := by rw [h.readers, hpp]; rfl
  have hwd : s.wd = true := by
    rcases writer_blocked rfl hW with e | e | e
    · exact e
    · exact absurd hr e
    · exact absurd hcp e
  exact ⟨by simp [terminated, hpp, hcp, hwd], hr, h.panic⟩

end CModel.Walker
