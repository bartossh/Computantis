import Proofs.LedgerBasic
/-! C14: LoadDag is all-or-nothing with respect to the `loaded` flag; malformed streams are refused. -/
namespace CModel.Book
open CModel

/-- `loadIns`, `loadLnk`: the steps of the two folds of `loadDag` (insertion phase, linking phase), see `loadDag_eq`. -/
def loadIns (st : Book × Option Err) (v : Vertex) : Book × Option Err :=
  match st with
  | (b, some e) => (b, some e)
  | (b, none) =>
    match b.indexSave v.trx.hash v.hash with
    | none => (b, some [.leafRejected])
    | some b1 =>
      match b1.addVertex v with
      | none => (b1, some [.idDuplicate])
      | some b2 => (b2, none)

def loadLnk (st : Book × Bool × Option Err) (v : Vertex) : Book × Bool × Option Err :=
  match st with
  | (b, s, some e) => (b, s, some e)
  | (b, seenSelf, none) =>
    let self := v.trx.issuer == v.signer
    if self && seenSelf then (b, seenSelf, some [.unexpected]) else
    if v.trx.isEmpty then (b, seenSelf || self, some [.unexpected]) else
    if !v.trx.spice.canonB then (b, seenSelf || self, some [.notCanonical]) else
    match loadLink b v with
    | none => (b, seenSelf || self, some [.idUnknown])
    | some b' => (b', seenSelf || self, none)

/-- the test `self` of `loadLnk`: the vertex is sealed by the issuer of its transaction (the genesis vertex is) -/
def isSelf (v : Vertex) : Bool := v.trx.issuer == v.signer

theorem isSelf_iff (v : Vertex) : isSelf v = true ↔ v.trx.issuer = v.signer := beq_iff_eq

/-- A transaction already indexed refuses the vertex; a vertex hash already live refuses it too, but leaves the new index
entry behind (LoadDag does not roll back). -/
theorem loadIns_cases (b : Book) (v : Vertex) :
    (b.indexHas v.trx.hash = true ∧ loadIns (b, none) v = (b, some [.leafRejected])) ∨
    (b.indexHas v.trx.hash = false ∧ b.hasVertex v.hash = true ∧
      loadIns (b, none) v = ({ b with index := b.index ++ [(v.trx.hash, v.hash)] }, some [.idDuplicate])) ∨
    (b.indexHas v.trx.hash = false ∧ b.hasVertex v.hash = false ∧
      loadIns (b, none) v = ({ b with index := b.index ++ [(v.trx.hash, v.hash)], verts := b.verts ++ [v] }, none)) := by
  rcases indexSave_cases b v.trx.hash v.hash with ⟨hT, h⟩ | ⟨hT, h⟩
  · exact .inl ⟨hT, by simp only [loadIns, h]⟩
  · rcases addVertex_cases { b with index := b.index ++ [(v.trx.hash, v.hash)] } v with ⟨hV, h'⟩ | ⟨hV, h'⟩
    · exact .inr (.inl ⟨hT, hV, by simp only [loadIns, h, h']⟩)
    · exact .inr (.inr ⟨hT, hV, by simp only [loadIns, h, h']⟩)

theorem loadIns_fresh {b : Book} {v : Vertex} (hT : b.indexHas v.trx.hash = false) (hV : b.hasVertex v.hash = false) :
    loadIns (b, none) v = ({ b with index := b.index ++ [(v.trx.hash, v.hash)], verts := b.verts ++ [v] }, none) := by
  obtain ⟨h, _⟩ | ⟨_, h, _⟩ | ⟨_, _, h⟩ := loadIns_cases b v
  · rw [hT] at h; cases h
  · rw [hV] at h; cases h
  · exact h

theorem loadIns_loaded (st : Book × Option Err) (v : Vertex) : (loadIns st v).1.loaded = st.1.loaded := by
  obtain ⟨b, _ | e⟩ := st
  · rcases loadIns_cases b v with ⟨_, h⟩ | ⟨_, _, h⟩ | ⟨_, _, h⟩ <;> rw [h]
  · rfl

theorem foldl_loadIns_err (vs : List Vertex) (b : Book) (e : Err) : (vs.foldl loadIns (b, some e)).2 = some e := by
  induction vs with
  | nil => rfl
  | cons v vs ih => exact ih

/-- Kept by every further vertex of the stream, true after a vertex carrying `t`, and fatal for the next vertex
carrying `t`. -/
def ErrOrIndexed (t : Hash) (st : Book × Option Err) : Prop := st.2 ≠ none ∨ st.1.indexHas t = true

theorem errOrIndexed_step (t : Hash) (st : Book × Option Err) (x : Vertex) (k : ErrOrIndexed t st ∨ x.trx.hash = t) :
    ErrOrIndexed t (loadIns st x) := by
  obtain ⟨b, _ | e⟩ := st
  · rcases loadIns_cases b x with ⟨_, h⟩ | ⟨_, _, h⟩ | ⟨_, _, h⟩ <;> rw [h]
    · exact .inl nofun
    · exact .inl nofun
    · have := k.imp_left fun k => k.resolve_left (· rfl)
      refine .inr ?_
      simp only [indexHas, List.any_append, List.any_cons, List.any_nil, Bool.or_eq_true, beq_iff_eq] at this ⊢
      exact this.imp_right .inl
  · exact .inl nofun

theorem errOrIndexed_refuses (st : Book × Option Err) (v' : Vertex) (k : ErrOrIndexed v'.trx.hash st) :
    (loadIns st v').2 ≠ none := by
  obtain ⟨b, _ | e⟩ := st
  · have hk := k.resolve_left (· rfl)
    rcases loadIns_cases b v' with ⟨_, h⟩ | ⟨hf, _⟩ | ⟨hf, _⟩
    · rw [h]; nofun
    · rw [hk] at hf; cases hf
    · rw [hk] at hf; cases hf
  · nofun

theorem dup_transaction_refused (s1 s2 s3 : List Vertex) (v v' : Vertex) (ht : v.trx.hash = v'.trx.hash) (b : Book) :
    ((s1 ++ v :: s2 ++ v' :: s3).foldl loadIns (b, none)).2 ≠ none := by
  rw [List.foldl_append, List.foldl_cons]
  have hv' : (loadIns ((s1 ++ v :: s2).foldl loadIns (b, none)) v').2 ≠ none :=
    errOrIndexed_refuses _ v' (foldl_absorbing loadIns (ErrOrIndexed v'.trx.hash)
      (fun st x k => errOrIndexed_step _ st x (.inl k)) (fun st => errOrIndexed_step _ st v (.inr ht)) (by simp) _)
  -- the error `v'` runs into stays to the end
  generalize loadIns ((s1 ++ v :: s2).foldl loadIns (b, none)) v' = st at hv' ⊢
  obtain ⟨b', _ | e⟩ := st
  · exact absurd rfl hv'
  · rw [foldl_loadIns_err]; nofun

/-- Refused with the book untouched, for one of four reasons, or the guards hold and the links are made. -/
theorem loadLnk_cases (b : Book) (seen : Bool) (v : Vertex) :
    (∃ s e, loadLnk (b, seen, none) v = (b, s, some e) ∧
      ((isSelf v && seen) = true ∨ v.trx.isEmpty = true ∨ v.trx.spice.canonB = false ∨ loadLink b v = none)) ∨
    (∃ b', loadLnk (b, seen, none) v = (b', seen || isSelf v, none) ∧
      (isSelf v && seen) = false ∧ v.trx.isEmpty = false ∧ v.trx.spice.canonB = true ∧ loadLink b v = some b') := by
  generalize hst : ((b, seen, none) : Book × Bool × Option Err) = st
  -- the branches of `loadLnk` in the order of its text; the first is for a state that holds an error already
  fun_cases loadLnk st v with
  | case1 => cases hst
  | case2 _ _ _ h1 => cases hst; exact .inl ⟨_, _, rfl, .inl h1⟩
  | case3 _ _ _ h1 h2 => cases hst; exact .inl ⟨_, _, rfl, .inr (.inl h2)⟩
  | case4 _ _ _ h1 h2 h3 => cases hst; exact .inl ⟨_, _, rfl, .inr (.inr (.inl (by simpa using h3)))⟩
  | case5 _ _ _ h1 h2 h3 h4 => cases hst; exact .inl ⟨_, _, rfl, .inr (.inr (.inr h4))⟩
  | case6 _ _ _ h1 h2 h3 b' h4 =>
    cases hst; exact .inr ⟨b', rfl, Bool.eq_false_iff.2 h1, Bool.eq_false_iff.2 h2, by simpa using h3, h4⟩

theorem loadLnk_ok {b b' : Book} {seen : Bool} {v : Vertex} (hs : (isSelf v && seen) = false)
    (he : v.trx.isEmpty = false) (hc : v.trx.spice.canonB = true) (hl : loadLink b v = some b') :
    loadLnk (b, seen, none) v = (b', seen || isSelf v, none) := by
  obtain ⟨_, _, _, h | h | h | h⟩ | ⟨_, h, _, _, _, hl'⟩ := loadLnk_cases b seen v
  · rw [hs] at h; cases h
  · rw [he] at h; cases h
  · rw [hc] at h; cases h
  · rw [hl] at h; cases h
  · rw [h, Option.some.inj (hl.symm.trans hl')]

theorem loadLnk_loaded (st : Book × Bool × Option Err) (v : Vertex) : (loadLnk st v).1.loaded = st.1.loaded := by
  obtain ⟨b, s, _ | e⟩ := st
  · rcases loadLnk_cases b s v with ⟨_, _, h, _⟩ | ⟨b', h, _, _, _, hl⟩ <;> rw [h]
    -- linking adds edges only
    rw [(linkNew_pair hl).1]
  · rfl

theorem loadLnk_err (st : Book × Bool × Option Err) (v : Vertex)
    (h : st.2.2 ≠ none ∨ v.trx.isEmpty = true ∨ v.trx.spice.canonB = false) : (loadLnk st v).2.2 ≠ none := by
  obtain ⟨b, s, _ | e⟩ := st
  · rcases loadLnk_cases b s v with ⟨_, _, hr, _⟩ | ⟨_, _, _, he, hc, _⟩
    · rw [hr]; nofun
    · rcases h.resolve_left (· rfl) with h | h
      · rw [he] at h; cases h
      · rw [hc] at h; cases h
  · nofun

theorem loadLnk_bad_vertex (scan : List Vertex) (v : Vertex) (hv : v ∈ scan)
    (hbad : v.trx.isEmpty = true ∨ v.trx.spice.canonB = false) (st : Book × Bool × Option Err) :
    (scan.foldl loadLnk st).2.2 ≠ none :=
  foldl_absorbing loadLnk (·.2.2 ≠ none) (fun st x h => loadLnk_err st x (.inl h)) (fun st => loadLnk_err st v (.inr hbad)) hv st

theorem loadDag_eq (b : Book) (stream scan : List Vertex) (root : Option Vertex) :
    b.loadDag stream scan root =
      (if b.loaded then (b, .error [.dagLoaded]) else
       let fin := fun (b : Book) => { (b.updateWT initialThroughput) with throughput := initialThroughput }
       match stream.foldl loadIns (b, none) with
       | (b1, some e) => (fin b1, .error e)
       | (b1, none) =>
         match scan.foldl loadLnk (b1, false, none) with
         | (b2, _, some e) => (fin b2, .error e)
         | (b2, _, none) =>
           match root with
           | none => (fin b2, .error [.unexpected])
           | some r =>
             if !(b2.roots.any (·.hash == r.hash)) then (fin b2, .error [.unexpected, .panic]) else
             (fin { b2 with genesis := r.trx.issuer, loaded := true }, .ok ())) := rfl

/-- What a successful load is: the book the two folds built, with the genesis address read off the root, marked loaded,
and with some weight. -/
theorem loadDag_of_folds {b : Book} {stream scan : List Vertex} {root : Vertex} {b1 b2 : Book} {sf : Bool}
    (hl : b.loaded = false) (h1 : stream.foldl loadIns (b, none) = (b1, none))
    (h2 : scan.foldl loadLnk (b1, false, none) = (b2, sf, none))
    (hr : b2.roots.any (·.hash == root.hash) = true) :
    ∃ w, b.loadDag stream scan (some root) =
      ({ b2 with genesis := root.trx.issuer, loaded := true, weight := w, throughput := initialThroughput }, .ok ()) := by
  obtain ⟨w, _, hw⟩ := updateWT_eq { b2 with genesis := root.trx.issuer, loaded := true } initialThroughput
  refine ⟨w, ?_⟩
  rw [loadDag_eq]
  simp only [hl, Bool.false_eq_true, ↓reduceIte, h1, h2, hr, Bool.not_true, hw]

/-- A load is refused, and then `loaded` is as it was; or it is as `loadDag_of_folds` describes. -/
theorem loadDag_cases (b : Book) (stream scan : List Vertex) (root : Option Vertex) :
    (∃ e, (b.loadDag stream scan root).2 = .error e ∧ (b.loadDag stream scan root).1.loaded = b.loaded) ∨
    (∃ r b1 b2 sf w, root = some r ∧
      b.loadDag stream scan root =
        ({ b2 with genesis := r.trx.issuer, loaded := true, weight := w, throughput := initialThroughput }, .ok ()) ∧
      b.loaded = false ∧ stream.foldl loadIns (b, none) = (b1, none) ∧
      scan.foldl loadLnk (b1, false, none) = (b2, sf, none) ∧ b2.roots.any (·.hash == r.hash) = true) := by
  -- past the first guard, a refusal returns the book one of the folds has reached, weight and throughput brought up to date
  have refused : ∀ (b' : Book) (e : Err), b'.loaded = b.loaded →
      b.loadDag stream scan root = ({ (b'.updateWT initialThroughput) with throughput := initialThroughput }, .error e) →
      ∃ e, (b.loadDag stream scan root).2 = .error e ∧ (b.loadDag stream scan root).1.loaded = b.loaded :=
    fun b' e hb h => ⟨e, by rw [h], by rw [h]; simp only [updateWT_loaded]; exact hb⟩
  have l1 := foldl_keeps loadIns (·.1.loaded) loadIns_loaded stream (b, none)
  have hres := loadDag_eq b stream scan root
  rcases Bool.eq_false_or_eq_true b.loaded with hl | hl
  · rw [hl, if_pos rfl] at hres
    exact .inl ⟨_, by rw [hres], by rw [hres]⟩
  · rw [hl, if_neg Bool.false_ne_true] at hres
    rcases h1 : stream.foldl loadIns (b, none) with ⟨b1, _ | e1⟩ <;> simp only [h1] at hres l1
    · have l2 := (foldl_keeps loadLnk (·.1.loaded) loadLnk_loaded scan (b1, false, none)).trans l1
      rcases h2 : scan.foldl loadLnk (b1, false, none) with ⟨b2, sf, _ | e2⟩ <;> simp only [h2] at hres l2
      · cases root with
        | none => exact .inl (refused _ _ l2 hres)
        | some r =>
          cases hr : b2.roots.any (·.hash == r.hash) with
          | false => exact .inl (refused _ _ l2 (by simpa only [hr, Bool.not_false, if_true] using hres))
          | true =>
            obtain ⟨w, h⟩ := loadDag_of_folds hl h1 h2 hr
            exact .inr ⟨r, b1, b2, sf, w, rfl, h, hl, rfl, h2, hr⟩
      · exact .inl (refused _ _ l2 hres)
    · exact .inl (refused _ _ l1 hres)

end CModel.Book
