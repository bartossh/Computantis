import Proofs.LedgerDag
/-! The breadth-first ancestor walk is sound and complete: with the number of vertices as fuel, `ancestors b h`
lists exactly the strict ancestors of `h`, each once. -/
namespace CModel.Book
open CModel

/-- `x` is a strict ancestor of `h` along the edge list -/
inductive Anc (es : List (Hash × Hash)) : Hash → Hash → Prop
  | base {x h} : (x, h) ∈ es → Anc es x h
  | step {x y h} : (x, y) ∈ es → Anc es y h → Anc es x h

theorem Anc.rank {es : List (Hash × Hash)} {rank : Hash → Nat} (hr : ∀ e ∈ es, rank e.1 < rank e.2) {x h : Hash}
    (a : Anc es x h) : rank x < rank h := by
  induction a with
  | base he => exact hr _ he
  | step he _ ih => exact Nat.lt_trans (hr _ he) ih

theorem Anc.trans {es : List (Hash × Hash)} {x y z : Hash} (a : Anc es x y) (c : Anc es y z) : Anc es x z := by
  induction a with
  | base he => exact Anc.step he c
  | step he _ ih => exact Anc.step he (ih c)

theorem Anc.mono {es es' : List (Hash × Hash)} (hs : ∀ e ∈ es, e ∈ es') {x y : Hash} (a : Anc es x y) : Anc es' x y := by
  induction a with
  | base he => exact Anc.base (hs _ he)
  | step he _ ih => exact Anc.step (hs _ he) ih

/-- a path that starts outside a down-closed set `M` never touches `M`: it survives the removal of every edge
with an endpoint in `M` -/
theorem Anc.avoid {es : List (Hash × Hash)} (M : Hash → Prop)
    (hdown : ∀ x y, Anc es x y → M y → M x) {x t : Hash} (a : Anc es x t) (hx : ¬ M x)
    (es' : List (Hash × Hash)) (hes' : ∀ e ∈ es, ¬ M e.1 → ¬ M e.2 → e ∈ es') : Anc es' x t := by
  have ht : ¬ M t := fun hm => hx (hdown x t a hm)
  induction a with
  | base he => exact Anc.base (hes' _ he hx ht)
  | @step x y t he a' ih =>
    have hy : ¬ M y := fun hm => hx (hdown x y (Anc.base he) hm)
    exact Anc.step (hes' _ he hx hy) (ih hy ht)

theorem mem_parentsOf (b : Book) (h p : Hash) : p ∈ b.parentsOf h ↔ (p, h) ∈ b.edges := by
  simp only [parentsOf, List.mem_map, List.mem_filter, beq_iff_eq]
  exact ⟨fun ⟨e, ⟨he, h2⟩, h1⟩ => by rw [← h1, ← h2]; exact he, fun he => ⟨(p, h), ⟨he, rfl⟩, rfl⟩⟩

/-- the de-duplicating fold inside `bfs` and `ancestors` -/
def dedupInto (visited l acc : List Hash) : List Hash :=
  l.foldl (fun acc p => if acc.contains p || visited.contains p then acc else acc ++ [p]) acc

theorem dedupInto_cons (visited : List Hash) (p : Hash) (l acc : List Hash) :
    dedupInto visited (p :: l) acc = dedupInto visited l (if p ∈ acc ∨ p ∈ visited then acc else acc ++ [p]) := by
  simp [dedupInto]

theorem mem_dedupInto {visited l acc : List Hash} {x : Hash} :
    x ∈ dedupInto visited l acc ↔ x ∈ acc ∨ (x ∈ l ∧ x ∉ visited) := by
  induction l generalizing acc with
  | nil => simp [dedupInto]
  | cons p l ih =>
    have hp : x ∈ (if p ∈ acc ∨ p ∈ visited then acc else acc ++ [p]) ↔ x ∈ acc ∨ (x = p ∧ x ∉ visited) := by
      by_cases hc : p ∈ acc ∨ p ∈ visited
      · rw [if_pos hc]
        exact ⟨.inl, fun h => h.elim id fun ⟨e, hv⟩ => e ▸ hc.resolve_right (e ▸ hv)⟩
      · rw [if_neg hc, List.mem_append, List.mem_singleton]
        exact or_congr_right ⟨fun e => ⟨e, e ▸ fun h => hc (.inr h)⟩, And.left⟩
    rw [dedupInto_cons, ih, hp, List.mem_cons, or_and_right, or_assoc]

theorem nodup_dedupInto {visited l acc : List Hash} (h : acc.Nodup) : (dedupInto visited l acc).Nodup := by
  induction l generalizing acc with
  | nil => exact h
  | cons p l ih =>
    rw [dedupInto_cons]
    by_cases hc : p ∈ acc ∨ p ∈ visited
    · rw [if_pos hc]; exact ih h
    · rw [if_neg hc]
      exact ih (List.nodup_append.2 ⟨h, List.pairwise_singleton _ p, fun a ha c hc' e =>
        hc (.inl (List.mem_singleton.1 hc' ▸ e ▸ ha))⟩)

/-- the next level of the walk: the unvisited parents of the frontier -/
def level (b : Book) (frontier visited : List Hash) : List Hash := dedupInto visited (frontier.flatMap b.parentsOf) []

theorem mem_level {b : Book} {frontier visited : List Hash} {p : Hash} :
    p ∈ level b frontier visited ↔ (∃ y ∈ frontier, (p, y) ∈ b.edges) ∧ p ∉ visited := by
  simp [level, mem_dedupInto, mem_parentsOf]

theorem nodup_level (b : Book) (frontier visited : List Hash) : (level b frontier visited).Nodup :=
  nodup_dedupInto List.nodup_nil

theorem bfs_unfold (b : Book) (fuel : Nat) (frontier visited : List Hash) :
    b.bfs (fuel + 1) frontier visited =
      if frontier.isEmpty then visited else b.bfs fuel (level b frontier visited) (visited ++ level b frontier visited) := by
  rw [bfs]; rfl

theorem ancestors_eq (b : Book) (h : Hash) : b.ancestors h = b.bfs b.verts.length (level b [h] []) (level b [h] []) := by
  have : (b.parentsOf h).foldl (fun acc p => if acc.contains p then acc else acc ++ [p]) [] = level b [h] [] := by
    unfold level dedupInto; rw [List.flatMap_singleton]; congr 1; funext acc p; simp
  simp only [ancestors, this]

theorem mem_first {b : Book} {h p : Hash} : p ∈ level b [h] [] ↔ (p, h) ∈ b.edges := by
  simp [mem_level]

/-- `bfs` iterates `(frontier, visited) ↦ (level, visited ++ level)`: what that step keeps holds of the result, with some
last frontier. That frontier is empty unless the fuel ran out, and then every round has added something. -/
theorem bfs_inv {b : Book} {P : List Hash → List Hash → Prop}
    (step : ∀ {frontier visited}, P frontier visited → P (level b frontier visited) (visited ++ level b frontier visited))
    (fuel : Nat) {frontier visited : List Hash} (h : P frontier visited) :
    ∃ last, P last (b.bfs fuel frontier visited) ∧
      (last = [] ∨ (frontier ≠ [] ∧ fuel + visited.length ≤ (b.bfs fuel frontier visited).length)) := by
  induction fuel generalizing frontier visited with
  | zero => exact ⟨frontier, h, Decidable.or_iff_not_imp_left.2 fun hne => ⟨hne, Nat.le_of_eq (Nat.zero_add _)⟩⟩
  | succ n ih =>
    rw [bfs_unfold]
    by_cases hfe : frontier = []
    · subst hfe; exact ⟨[], h, .inl rfl⟩
    · rw [if_neg (by simpa using hfe)]
      obtain ⟨last, hlast, hlen⟩ := ih (step h)
      refine ⟨last, hlast, hlen.imp_right fun ⟨hne, hle⟩ => ⟨hfe, ?_⟩⟩
      have := List.length_pos_iff.2 hne
      rw [List.length_append] at hle
      omega

theorem level_sound {b : Book} {h : Hash} {frontier visited : List Hash} (hf : ∀ y ∈ frontier, Anc b.edges y h) :
    ∀ y ∈ level b frontier visited, Anc b.edges y h := fun _ hy =>
  let ⟨⟨z, hz, hyz⟩, _⟩ := mem_level.1 hy
  Anc.step hyz (hf z hz)

theorem ancestors_sound (b : Book) (h x : Hash) (hx : x ∈ b.ancestors h) : Anc b.edges x h := by
  rw [ancestors_eq] at hx
  have hfirst : ∀ y ∈ level b [h] [], Anc b.edges y h := fun y hy => .base (mem_first.1 hy)
  obtain ⟨_, ⟨_, hv⟩, _⟩ :=
    bfs_inv (P := fun frontier visited => (∀ y ∈ frontier, Anc b.edges y h) ∧ ∀ y ∈ visited, Anc b.edges y h)
      (fun ⟨hf, hv⟩ => ⟨level_sound hf, fun y hy => (List.mem_append.1 hy).elim (hv y) (level_sound hf y)⟩)
      b.verts.length ⟨hfirst, hfirst⟩
  exact hv x hx

theorem reaches_false_of_rank (b : Book) (rank : Hash → Nat) (hr : ∀ e ∈ b.edges, rank e.1 < rank e.2) (p v : Hash)
    (hpv : rank p < rank v) : b.reaches v p = false :=
  Bool.eq_false_iff.2 fun hh => Nat.lt_asymm hpv ((ancestors_sound b p v (by simpa [reaches] using hh)).rank hr)

theorem nodup_append_level {b : Book} {frontier visited : List Hash} (hn : visited.Nodup) :
    (visited ++ level b frontier visited).Nodup :=
  List.nodup_append.2 ⟨hn, nodup_level b frontier visited, fun _ ha _ hc e => (mem_level.1 hc).2 (e ▸ ha)⟩

theorem ancestors_nodup (b : Book) (h : Hash) : (b.ancestors h).Nodup := by
  rw [ancestors_eq]
  obtain ⟨_, hn, _⟩ := bfs_inv (P := fun _ visited => visited.Nodup) nodup_append_level b.verts.length (nodup_level b [h] [])
  exact hn

/-- The idea is `closed`: a visited vertex that has left the frontier has all its parents visited. Once the frontier is
empty, what is visited is therefore closed under parents and, with `first`, holds every strict ancestor of `h`
(`BfsInv.done`); `nodup` and `live` bound it by the number of vertices, which is the fuel `ancestors` gives the walk
(`BfsInv.length_le`). `sub` is not needed below. -/
structure BfsInv (b : Book) (h : Hash) (frontier visited : List Hash) : Prop where
  sub : ∀ x ∈ frontier, x ∈ visited
  closed : ∀ y ∈ visited, y ∉ frontier → ∀ p, (p, y) ∈ b.edges → p ∈ visited
  first : ∀ p, (p, h) ∈ b.edges → p ∈ visited
  nodup : visited.Nodup
  live : ∀ x ∈ visited, b.hasVertex x = true

theorem BfsInv.done {b : Book} {h : Hash} {visited : List Hash} (inv : BfsInv b h [] visited) {x : Hash}
    (a : Anc b.edges x h) : x ∈ visited := by
  induction a with
  | base he => exact inv.first _ he
  | step he _ ih => exact inv.closed _ (ih inv) (by simp) _ he

theorem BfsInv.step {b : Book} {h : Hash} {frontier visited : List Hash} (hlive : ∀ e ∈ b.edges, b.hasVertex e.1 = true)
    (inv : BfsInv b h frontier visited) : BfsInv b h (level b frontier visited) (visited ++ level b frontier visited) where
  sub := fun _ hx => List.mem_append_right _ hx
  closed := fun y hy hyn p hp => by
    -- `y` was visited before; if it was on the frontier, its parents are visited or on the new level
    have hy := (List.mem_append.1 hy).resolve_right hyn
    by_cases hyf : y ∈ frontier
    · exact List.mem_append.2 (Decidable.or_iff_not_imp_left.2 fun hn => mem_level.2 ⟨⟨y, hyf, hp⟩, hn⟩)
    · exact List.mem_append_left _ (inv.closed y hy hyf p hp)
  first := fun p hp => List.mem_append_left _ (inv.first p hp)
  nodup := nodup_append_level inv.nodup
  live := fun y hy => (List.mem_append.1 hy).elim (inv.live y) fun hy =>
    let ⟨⟨z, _, hz⟩, _⟩ := mem_level.1 hy
    hlive (y, z) hz

theorem BfsInv.length_le {b : Book} {h : Hash} {frontier visited : List Hash} (inv : BfsInv b h frontier visited) :
    visited.length ≤ b.verts.length := by
  have := inv.nodup.length_le_of_subset (l₂ := b.verts.map (·.hash)) fun y hy =>
    let ⟨v, hv, hvh⟩ := (hasVertex_iff b y).1 (inv.live y hy)
    List.mem_map.2 ⟨v, hv, hvh⟩
  rwa [List.length_map] at this

theorem ancestors_complete (b : Book) (hlive : ∀ e ∈ b.edges, b.hasVertex e.1 = true) (h x : Hash)
    (a : Anc b.edges x h) : x ∈ b.ancestors h := by
  rw [ancestors_eq]
  obtain ⟨last, inv, hlast⟩ := bfs_inv (P := BfsInv b h) (BfsInv.step hlive) b.verts.length
    (frontier := level b [h] []) (visited := level b [h] [])
    ⟨fun _ hx => hx, fun _ hy hyn => absurd hy hyn, fun _ hp => mem_first.2 hp, nodup_level b [h] [],
      fun y hy => hlive (y, h) (mem_first.1 hy)⟩
  -- what has been visited is duplicate-free and live, so there are at most as many as vertices: the fuel did not run out
  obtain rfl : last = [] := hlast.resolve_right fun ⟨hne, hle⟩ => by
    have := List.length_pos_iff.2 hne
    have := inv.length_le
    omega
  exact inv.done a

theorem mem_ancestors_iff (b : Book) (hlive : ∀ e ∈ b.edges, b.hasVertex e.1 = true) (h x : Hash) :
    x ∈ b.ancestors h ↔ Anc b.edges x h :=
  ⟨ancestors_sound b h x, ancestors_complete b hlive h x⟩

end CModel.Book
