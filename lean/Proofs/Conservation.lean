import Proofs.Funds
/-! C02: pure algebra of flows over any finite vertex set. -/
namespace CModel.Book
open CModel CModel.Melange

def volume (vs : List Vertex) : Nat := (vs.map (fun v => val v.trx.spice)).sum

/-- Crediting every amount to the one wallet `key` names and adding up over a duplicate-free wallet list counts
every amount once. -/
theorem sum_by_key (addrs : List Addr) (hn : addrs.Nodup) (key : Vertex → Addr) (vs : List Vertex)
    (hall : ∀ v ∈ vs, key v ∈ addrs) :
    (addrs.map fun a => (vs.map fun v => if key v == a then val v.trx.spice else 0).sum).sum = volume vs := by
  induction vs with
  | nil => simp only [List.map_nil, List.sum_nil, List.map_const', List.sum_replicate_nat, Nat.mul_zero, volume]
  | cons v vs ih =>
    simp only [List.map_cons, List.sum_cons, volume]
    rw [sum_map_add, sum_indicator addrs hn, if_pos (hall v List.mem_cons_self),
      ih fun x hx => hall x (List.mem_cons_of_mem _ hx), volume]

theorem flow_balance (addrs : List Addr) (hn : addrs.Nodup) (vs : List Vertex)
    (hall : ∀ v ∈ vs, v.trx.issuer ∈ addrs ∧ v.trx.receiver ∈ addrs) :
    (addrs.map (fun a => inflow a vs)).sum = volume vs ∧ (addrs.map (fun a => outflow a vs)).sum = volume vs :=
  ⟨sum_by_key addrs hn (·.trx.receiver) vs fun v hv => (hall v hv).2,
    sum_by_key addrs hn (·.trx.issuer) vs fun v hv => (hall v hv).1⟩

end CModel.Book
