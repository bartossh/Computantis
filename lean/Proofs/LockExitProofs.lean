import CModel.LockExit
/-! C08 / C15: from the clean exits of single functions (`exitOk`) to a goroutine that calls any of them one after
the other (`afterCalls`): nothing stays held, and a lock that one call leaves behind stays held. -/
namespace CModel.LockExit
open CModel.Generated

theorem exitOk_held {e : LockExit} (h : exitOk e = true) (hk : e.kind ≠ .block) : heldAfter e.events = [] := by
  unfold exitOk at h
  cases hk' : e.kind with
  | block => exact absurd hk' hk
  | ret | fnEnd => rw [hk'] at h; exact List.isEmpty_iff.1 (Bool.and_eq_true_iff.1 h).1

theorem afterCalls_eq (calls : List LockExit) : afterCalls calls = calls.flatMap fun e => heldAfter e.events :=
  List.flatMap_eq_foldl.symm

theorem afterCalls_nil (calls : List LockExit) (h : ∀ e ∈ calls, heldAfter e.events = []) : afterCalls calls = [] :=
  afterCalls_eq calls ▸ List.flatMap_eq_nil_iff.2 h

theorem leak_persists (pre post : List LockExit) (e : LockExit) (l : String) (hl : l ∈ heldAfter e.events) :
    l ∈ afterCalls (pre ++ e :: post) :=
  afterCalls_eq _ ▸ List.mem_flatMap.2 ⟨e, List.mem_append_cons_self, hl⟩

end CModel.LockExit
