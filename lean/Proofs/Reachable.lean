import Proofs.Truncate
/-! Reachable books (including truncation) and the lift of the invariants to every reachable state. -/
namespace CModel.Book
open CModel

/-- Every way a book can evolve through the public operations (one atomic step per call; the
interleaving models for the few unlocked regions are in C03/C17/C18). `createGenesis` happens on an empty
book, as in `gossip.RunGRPC`; a ledger obtained by `loadDag` is not among these (its theorems are under C14).
Truncation may happen at any time with any cut. Hash
freshness of locally sealed vertices is the collision-freedom assumption on SHA-256. -/
inductive Reachable : Book → Prop
  | init (self : Addr) : Reachable { self := self }
  | genesis {b b' recv spc v v'} : Reachable b → b.verts = [] → b.cpVerts = [] → b.index = [] → b.parked = [] →
      b.cpFunds = [] →
      b.createGenesis recv spc v = (b', .ok v') → Reachable b'
  | createLeaf {b} (trx o1 o2 tip) : Reachable b → b.cpHasVertex tip.hash = false →
      Reachable (b.createLeaf trx o1 o2 tip).1
  | addLeaf {b} (v) : Reachable b → Reachable (b.addLeaf v).1
  | retry {b} : Reachable b → Reachable b.retryParked.1
  | trust {b} (a) : Reachable b → Reachable (b.addTrusted a)
  | untrust {b} (a) : Reachable b → Reachable (b.removeTrusted a)
  /-- truncation at any cut (the BFS position rule of the code only narrows the choice) -/
  | truncate {b} (cut : Hash) : Reachable b → Reachable (b.truncateAt cut).1
  /-- any run of internal transitions: in particular the locked bodies of `CreateLeaf` / `addLeafMemorized`
  executed on whatever the book has become by the time the lock is obtained, i.e. with stale pre-lock
  checks (`Proofs/StaleGuards.lean`) -/
  | steps {b b'} : Reachable b → Steps b b' → Reachable b'

theorem Reachable.inv {b : Book} (r : Reachable b) : LedgerInv b := by
  induction r with
  | init self => exact LedgerInv.init self
  | genesis _ hv hc hi hpk hcf h _ => exact LedgerInv.genesis hv hc hi hpk hcf h
  | createLeaf trx o1 o2 tip _ hf ih => exact ih.steps (steps_createLeaf _ trx o1 o2 tip hf)
  | addLeaf v _ ih => exact ih.steps (steps_addLeaf _ v)
  | retry _ ih => exact ih.steps (steps_retryParked _ ih.parkOk)
  | trust a _ ih => exact ih.tr (Tr.misc (coreEq_addTrusted _ a))
  | untrust a _ ih => exact ih.tr (Tr.misc (coreEq_removeTrusted _ a))
  | truncate cut _ ih => exact ih.truncate cut
  | steps _ s ih => exact ih.steps s

/-- Induction over reachable books, with the operations that are runs of internal transitions (proposals,
deliveries, retries, trusted-list changes) reduced to one case, a single `Tr` step from a reachable book, and
genesis reduced to what it does: a parentless vertex appended to an empty book. -/
theorem Reachable.induct {P : Book → Prop} (init : ∀ self, P { self := self })
    (genesis : ∀ {b} (v : Vertex) (w t : UInt64), Reachable b → b.verts = [] → b.cpVerts = [] → b.cpFunds = [] →
      isGenesisV v → P b → P { b with index := b.index ++ [(v.trx.hash, v.hash)], verts := b.verts ++ [v], weight := w,
                                      throughput := t, loaded := true, genesis := b.self })
    (tr : ∀ {b b'}, Reachable b → P b → Tr b b' → P b')
    (truncate : ∀ {b} (cut : Hash), Reachable b → P b → P (b.truncateAt cut).1)
    {b : Book} (r : Reachable b) : P b := by
  have steps : ∀ {b b'}, Reachable b → P b → Steps b b' → P b' := fun r h s =>
    (s.lift (P := fun b => Reachable b ∧ P b) (fun i t => ⟨.steps i.1 (.single t), tr i.1 i.2 t⟩) ⟨r, h⟩).2
  induction r with
  | init self => exact init self
  | genesis r hv hc _ _ hcf h ih =>
    obtain ⟨_, ok, w, t, rfl⟩ := createGenesis_ok h
    exact genesis _ w t r hv hc hcf ok.noParents ih
  | createLeaf trx o1 o2 tip r hf ih => exact steps r ih (steps_createLeaf _ trx o1 o2 tip hf)
  | addLeaf v r ih => exact steps r ih (steps_addLeaf _ v)
  | retry r ih => exact steps r ih (steps_retryParked _ r.inv.parkOk)
  | trust a r ih => exact tr r ih (Tr.misc (coreEq_addTrusted _ a))
  | untrust a r ih => exact tr r ih (Tr.misc (coreEq_removeTrusted _ a))
  | truncate cut r ih => exact truncate cut r ih
  | steps r s ih => exact steps r ih s

theorem Reachable.fundsOK {b : Book} (r : Reachable b) : FundsOK b where
  verts := fun v hv => (Melange.canonB_iff _).1 (r.inv.canon v (mem_allV_of_live hv))
  cp := fun e he => (Melange.canonB_iff _).1 (r.inv.cpCanon e he)

theorem Reachable.cpKeys {b : Book} (r : Reachable b) : (keys b.cpFunds).Nodup := by
  -- only a truncation writes the checkpointed funds
  refine r.induct (P := fun b => (keys b.cpFunds).Nodup) (fun _ => List.nodup_nil) (fun _ _ _ _ _ _ _ _ ih => ih)
    (fun _ ih t => by rw [t.frame.cpFunds]; exact ih) (fun {b} cut _ ih => ?_)
  rcases truncateAt_cases b cut with hb | ⟨_, _, hb⟩ <;> rw [hb]
  · exact ih
  · exact keys_foldl_alSet_nodup _ fmFinal b.cpFunds ih

theorem Reachable.cpVal_moved {b b' : Book} (r : Reachable b) {hs : List Hash} (hcp : b'.cpFunds = newCpFunds b (visited b hs))
    (a : Addr) (h1 : cpVal b a + inflow a (visited b hs) < Melange.capacity)
    (h3 : outflow a (visited b hs) ≤ cpVal b a + inflow a (visited b hs)) :
    cpVal b' a + outflow a (visited b hs) = cpVal b a + inflow a (visited b hs) :=
  newCpFunds_exact hcp a r.cpKeys r.fundsOK.cp (fun v hv => r.fundsOK.verts v (visited_sub b hs v hv)) h1 h3

end CModel.Book
