import Proofs.Orphans
/-! # C13: the orphan buffer is bounded, and so are the retries

`park` refuses a vertex when 500 are parked or when it was already parked more than 25 times; every
retry tick takes the head of the buffer and either gets rid of it (admitted, rejected, already known) or
parks it again with its counter raised. Hence: the buffer never exceeds `maxArraySize`, no counter exceeds
`maxRepeats + 1`, and the potential `Σ (maxRepeats + 2 - counter)` over the buffer falls with every tick on
a non-empty buffer - retry ticks alone empty the buffer after at most `27 · 500` of them, whatever the
ledger does with the vertices (no assumption on outcomes). -/
namespace CModel.Book
open CModel

/-- the buffer after a call that offered `v` with counter `rep`: as it was, or with `v` appended by `park` -/
def ParkStep (b b' : Book) (v : Vertex) (rep : Nat) : Prop :=
  b'.parked = b.parked ∨
  (b'.parked = b.parked ++ [(v, rep + 1)] ∧ rep ≤ maxRepeats ∧ b.parked.length ≠ maxArraySize)

theorem Offered.parkStep {b : Book} {v : Vertex} {rep : Nat} {out : Book × Except Err Unit} (h : Offered b v rep out) :
    ParkStep b out.1 v rep := by
  rcases h with ⟨_, _, _, e⟩ | ⟨_, _, _, e, hr, hl⟩ | ⟨rfl, _⟩ | ⟨_, _, _, e⟩
  · exact .inl e
  · exact .inr ⟨e, hr, hl⟩
  · exact .inl rfl
  · exact .inl e

def BufInv (l : List (Vertex × Nat)) : Prop :=
  l.length ≤ maxArraySize ∧ ∀ p ∈ l, p.2 ≤ maxRepeats + 1

theorem bufInv_nil : BufInv [] := ⟨Nat.zero_le _, List.forall_mem_nil _⟩

theorem ParkStep.bufInv {b b' : Book} {v : Vertex} {rep : Nat} (s : ParkStep b b' v rep) (h : BufInv b.parked) :
    BufInv b'.parked := by
  rcases s with e | ⟨e, hr, hl⟩
  · rw [e]; exact h
  · rw [e]
    refine ⟨?_, ?_⟩
    · have := h.1; simp only [List.length_append, List.length_cons, List.length_nil]; omega
    · intro p hp
      rcases List.mem_append.mp hp with hp | hp
      · exact h.2 p hp
      · simp only [List.mem_singleton] at hp; subst hp; simpa using hr

theorem retryParked_parked (b : Book) :
    (b.parked = [] ∧ (b.retryParked).1.parked = []) ∨
    ∃ v rep rest, b.parked = (v, rep) :: rest ∧ ParkStep { b with parked := rest } (b.retryParked).1 v rep := by
  rcases retryParked_cases b with ⟨hq, e⟩ | ⟨v, rep, rest, hq, e⟩ <;> rw [e]
  · exact .inl ⟨hq, hq⟩
  · exact .inr ⟨v, rep, rest, hq, (addLeafMemorized_offered _ v rep).parkStep⟩

theorem retryParked_bufInv (b : Book) (h : BufInv b.parked) : BufInv (b.retryParked).1.parked := by
  rcases retryParked_parked b with ⟨_, e⟩ | ⟨v, rep, rest, e, s⟩
  · rw [e]; exact bufInv_nil
  · rw [e] at h
    exact s.bufInv ⟨Nat.le_of_succ_le h.1, fun p hp => h.2 p (List.mem_cons_of_mem _ hp)⟩

theorem dstep_bufInv (b : Book) (op : DOp) (h : BufInv b.parked) : BufInv (dstep b op).1.parked := by
  cases op with
  | deliver v => exact (addLeaf_offered b v).parkStep.bufInv h
  | tick => rw [dstep_tick]; exact retryParked_bufInv b h

/-- **Bounded buffer, bounded counters**: in every run of deliveries and retry ticks -/
theorem drun_bufInv (b : Book) (ops : List DOp) (h : BufInv b.parked) : BufInv (drun b ops).parked := by
  induction ops generalizing b with
  | nil => exact h
  | cons op ops ih => exact ih _ (dstep_bufInv b op h)

theorem drun_bufInv_of_empty {b0 : Book} (hq : b0.parked = []) (ops : List DOp) : BufInv (drun b0 ops).parked :=
  drun_bufInv b0 ops (hq ▸ bufInv_nil)

/-- retries still allowed to the parked vertices -/
def pot : List (Vertex × Nat) → Nat
  | [] => 0
  | p :: l => (maxRepeats + 2 - p.2) + pot l

theorem pot_append (l m : List (Vertex × Nat)) : pot (l ++ m) = pot l + pot m := by
  induction l with
  | nil => simp [pot]
  | cons p l ih => simp [pot, ih]; omega

theorem pot_le (l : List (Vertex × Nat)) : pot l ≤ (maxRepeats + 2) * l.length := by
  induction l with
  | nil => simp [pot]
  | cons p l ih => simp only [pot, List.length_cons]; rw [Nat.mul_succ]; omega

theorem retry_uses_potential (b : Book) (h : BufInv b.parked) (hne : b.parked ≠ []) :
    pot (b.retryParked).1.parked < pot b.parked := by
  rcases retryParked_parked b with ⟨e, _⟩ | ⟨v, rep, rest, e, h'⟩
  · exact absurd e hne
  · rw [e] at h ⊢
    have hrep : rep ≤ maxRepeats + 1 := h.2 (v, rep) (List.mem_cons_self ..)
    rcases h' with e' | ⟨e', hr, _⟩
    · rw [e']; simp only [pot]; omega
    · rw [e', pot_append]; simp only [pot]; omega

def ticks : Nat → Book → Book
  | 0, b => b
  | n + 1, b => ticks n (b.retryParked).1

/-- **The retries end**: left alone, the retry loop empties the buffer within `pot` ticks - whatever the
ledger answers (admitted, rejected, parent still missing). -/
theorem ticks_empty_buffer (n : Nat) (b : Book) (h : BufInv b.parked) (hn : pot b.parked ≤ n) :
    (ticks n b).parked = [] := by
  induction n generalizing b with
  | zero =>
    cases hp : b.parked with
    | nil => simpa [ticks] using hp
    | cons p l =>
      have hp2 := h.2 p (by rw [hp]; exact List.mem_cons_self ..)
      rw [hp] at hn; simp only [pot] at hn; omega
  | succ n ih =>
    unfold ticks
    rcases retryParked_parked b with ⟨_, e⟩ | ⟨v, rep, rest, e, _⟩
    · exact ih _ (e ▸ bufInv_nil) (by rw [e]; exact Nat.zero_le _)
    · have := retry_uses_potential b h (by rw [e]; exact List.cons_ne_nil _ _)
      exact ih _ (retryParked_bufInv b h) (by omega)

/-- in numbers: 27 · 500 ticks always suffice -/
theorem ticks_bound (b : Book) (h : BufInv b.parked) : (ticks ((maxRepeats + 2) * maxArraySize) b).parked = [] :=
  ticks_empty_buffer _ b h (Nat.le_trans (pot_le _) (Nat.mul_le_mul_left _ h.1))

end CModel.Book
