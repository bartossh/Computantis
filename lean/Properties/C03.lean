import Proofs.StaleGuards
/-!
# C03 — a transaction is sealed in at most one vertex per ledger; the index is exact

Model: `CModel/Ledger.lean`. `Reachable` quantifies over every sequence of genesis / propose /
gossip-add / orphan-retry / trusted toggles with every resolution of the implementation's
nondeterminism (tip orders) and every input vertex or transaction, of any length.
Truncation moves vertices from `verts` to `cpVerts` (see C07 for its own preservation theorem).
-/
namespace Props.C03
open CModel CModel.Book

/-- No vertex hash occurs twice in live DAG + checkpointed storage. -/
theorem no_duplicate_vertex {b : Book} (r : Reachable b) : ((b.verts ++ b.cpVerts).map (·.hash)).Nodup :=
  r.inv.idx.nodupV

/-- No transaction hash is carried by two vertices (live DAG + storage together). -/
theorem no_duplicate_transaction {b : Book} (r : Reachable b) :
    ((b.verts ++ b.cpVerts).map (·.trx.hash)).Nodup := r.inv.idx.nodupT

/-- The index is a function. -/
theorem index_functional {b : Book} (r : Reachable b) : (b.index.map (·.1)).Nodup := r.inv.idx.nodupI

/-- The index points at the vertex that really holds the transaction. -/
theorem index_exact {b : Book} (r : Reachable b) (v : Vertex) (hv : v ∈ b.verts ++ b.cpVerts) :
    b.indexGet v.trx.hash = some v.hash := r.inv.idx.indexGet hv

/-- Every index entry has a holder (no dangling entries after any completed operation). -/
theorem index_no_dangling {b : Book} (r : Reachable b) (t h : Hash) (he : (t, h) ∈ b.index) :
    ∃ v ∈ b.verts ++ b.cpVerts, v.hash = h ∧ v.trx.hash = t := r.inv.idx.noDangling (t, h) he

/-- Re-submission of a vertex already held (live or checkpointed) is rejected and changes nothing. -/
theorem readd_rejected (b : Book) (v : Vertex) (h : b.checkVertexExists v.hash = true) :
    (b.addLeaf v).1 = b ∧ ∃ e, (b.addLeaf v).2 = .error e := by
  rcases addLeaf_cases b v with ⟨e, he, _⟩ | ⟨_, he⟩ <;> rw [he]
  · exact ⟨rfl, e, rfl⟩
  · rcases addLeafMemorized_cases b v 0 with ⟨e, he, _⟩ | ⟨_, hx, _⟩
    · rw [he]; exact ⟨rfl, e, rfl⟩
    · rw [h] at hx; cases hx

/-- The atomic index test inside the locked bodies (`insertLinked`): a transaction that is indexed when the body
runs is refused and the book left as it was, whatever an earlier, unlocked look-up said. -/
theorem body_refuses_indexed_transaction (b : Book) (v : Vertex) (ps : List Hash) (h : b.indexHas v.trx.hash = true) :
    insertLinked b v ps = (b, some 1) := insertLinked_index_taken b v ps h

/-- A proposal of a transaction already indexed is rejected, leaving the book unchanged (on the gossip path the
same look-up is one of the refusals of `addLeafMemorized_cases`; `body_refuses_indexed_transaction` is the atomic
test behind both). -/
theorem resubmit_transaction_rejected (b : Book) (trx : Trx) (o1 o2 : List Hash) (tip : Vertex)
    (h : b.indexHas trx.hash = true) :
    (b.createLeaf trx o1 o2 tip).1 = b ∧ ∃ e, (b.createLeaf trx o1 o2 tip).2 = .error e := by
  rcases createLeaf_cases b trx o1 o2 tip with ⟨e, he⟩ | ⟨_, hx, _⟩
  · rw [he]; exact ⟨rfl, e, rfl⟩
  · rw [h] at hx; cases hx

/-- After an invalid tip was dropped its transaction is not indexed any more, so proposing it again
is not rejected as a duplicate. -/
theorem reproposable (b : Book) (v : Vertex) :
    ((b.deleteVertex v.hash).indexRemove v.trx.hash).indexHas v.trx.hash = false := indexHas_indexRemove _ _

/-! ### Concurrent duplicates: the look-ups run before the ledger lock, the body after it

`CreateLeaf` and `addLeafMemorized` ask "is this transaction / vertex already known" BEFORE `ab.mux.Lock()`;
the answer may be stale when the body runs. `createLeafLocked` / `addLeafLocked` are the bodies; `Between b0 b1`
is any run of other calls between the look-ups (on `b0`) and the body (on `b1`). -/

/-- **Stale look-ups never produce a duplicate (gossip / retry path).** Whatever ran between the unlocked
checks of a delivery and its locked body, the book after the body holds no vertex hash twice, no transaction
hash twice, and its index is a function that covers every held vertex and has no dangling entry. -/
theorem stale_delivery_no_duplicates {b0 b1 : Book} (r0 : Reachable b0) (bt : Between b0 b1) (leaf : Vertex) (rep : Nat)
    (pre : AddPre b0 leaf) (hc : HashConsistent b1 leaf) :
    let b2 := (b1.addLeafLocked leaf rep).1
    ((b2.verts ++ b2.cpVerts).map (·.hash)).Nodup ∧ ((b2.verts ++ b2.cpVerts).map (·.trx.hash)).Nodup ∧
    (b2.index.map (·.1)).Nodup ∧ (∀ v ∈ b2.verts ++ b2.cpVerts, b2.indexGet v.trx.hash = some v.hash) ∧
    (∀ t h, (t, h) ∈ b2.index → ∃ v ∈ b2.verts ++ b2.cpVerts, v.hash = h ∧ v.trx.hash = t) := by
  intro b2
  have r2 : Reachable b2 := addLeaf_stale_prechecks r0 bt leaf rep pre hc
  exact ⟨no_duplicate_vertex r2, no_duplicate_transaction r2, index_functional r2, index_exact r2, index_no_dangling r2⟩

/-- **Stale look-ups never produce a duplicate (local proposals).** -/
theorem stale_proposal_no_duplicates {b0 b1 : Book} (r0 : Reachable b0) (bt : Between b0 b1) (trx : Trx) (o1 o2 : List Hash)
    (tip : Vertex) (pre : CreatePre b0 trx) (hf : b1.cpHasVertex tip.hash = false) :
    let b2 := (b1.createLeafLocked trx o1 o2 tip).1
    ((b2.verts ++ b2.cpVerts).map (·.hash)).Nodup ∧ ((b2.verts ++ b2.cpVerts).map (·.trx.hash)).Nodup ∧
    (b2.index.map (·.1)).Nodup ∧ (∀ v ∈ b2.verts ++ b2.cpVerts, b2.indexGet v.trx.hash = some v.hash) ∧
    (∀ t h, (t, h) ∈ b2.index → ∃ v ∈ b2.verts ++ b2.cpVerts, v.hash = h ∧ v.trx.hash = t) := by
  intro b2
  have r2 : Reachable b2 := createLeaf_stale_prechecks r0 bt trx o1 o2 tip pre hf
  exact ⟨no_duplicate_vertex r2, no_duplicate_transaction r2, index_functional r2, index_exact r2, index_no_dangling r2⟩

/-- Two deliveries of the same vertex whose look-ups both ran on `b0`, the bodies one after the other. Only the
checkpointed vertices of `b0` are assumed hash-consistent with the vertex: the first body leaves storage alone, so
the assumption still holds when the second body runs. -/
theorem two_deliveries_of_one_vertex {b0 : Book} (r0 : Reachable b0) (leaf : Vertex) (rep1 rep2 : Nat)
    (pre : AddPre b0 leaf) (hc : HashConsistent b0 leaf) :
    let b1 := (b0.addLeafLocked leaf rep1).1
    let b2 := (b1.addLeafLocked leaf rep2).1
    Reachable b2 ∧ ((b2.verts ++ b2.cpVerts).map (·.hash)).Nodup ∧ ((b2.verts ++ b2.cpVerts).map (·.trx.hash)).Nodup := by
  intro b1 b2
  have s1 : Steps b0 b1 := steps_addLeafLocked_stale b0 leaf rep1 r0.inv pre.guards pre.notGenesis pre.vok hc
  have hc1 : HashConsistent b1 leaf := hc.of_cpVerts s1.frame.cpVerts
  have r2 : Reachable b2 := addLeaf_stale_prechecks r0 (Between.steps (Between.refl b0) s1) leaf rep2 pre hc1
  exact ⟨r2, no_duplicate_vertex r2, no_duplicate_transaction r2⟩

/-- **Two simultaneous deliveries of the same vertex**: both pass the unlocked look-ups on `b0` (neither has
inserted yet), then their bodies take the lock one after the other. The vertex and its transaction are
held at most once afterwards, and the book is a reachable one. -/
theorem simultaneous_duplicate_deliveries {b0 : Book} (r0 : Reachable b0) (leaf : Vertex) (rep1 rep2 : Nat)
    (pre : AddPre b0 leaf) (hc : ∀ b, HashConsistent b leaf) :
    let b1 := (b0.addLeafLocked leaf rep1).1
    let b2 := (b1.addLeafLocked leaf rep2).1
    Reachable b2 ∧ ((b2.verts ++ b2.cpVerts).map (·.hash)).Nodup ∧ ((b2.verts ++ b2.cpVerts).map (·.trx.hash)).Nodup :=
  two_deliveries_of_one_vertex r0 leaf rep1 rep2 pre (hc b0)

/-- **Two simultaneous proposals of the same transaction** (two different freshly sealed vertices): the
transaction ends up in at most one vertex. -/
theorem simultaneous_duplicate_proposals {b0 : Book} (r0 : Reachable b0) (trx : Trx) (o1 o2 o1' o2' : List Hash) (tip tip' : Vertex)
    (pre : CreatePre b0 trx) (hf : b0.cpHasVertex tip.hash = false) (hf' : b0.cpHasVertex tip'.hash = false) :
    let b1 := (b0.createLeafLocked trx o1 o2 tip).1
    let b2 := (b1.createLeafLocked trx o1' o2' tip').1
    Reachable b2 ∧ ((b2.verts ++ b2.cpVerts).map (·.trx.hash)).Nodup := by
  intro b1 b2
  have s1 : Steps b0 b1 := steps_createLeafLocked b0 trx o1 o2 tip pre.guards hf
  have hf1 : b1.cpHasVertex tip'.hash = false := (cpHasVertex_congr s1.frame.cpVerts _).trans hf'
  have r2 : Reachable b2 := createLeaf_stale_prechecks r0 (Between.steps (Between.refl b0) s1) trx o1' o2' tip' pre hf1
  exact ⟨r2, no_duplicate_transaction r2⟩

/-! ### Non-vacuity: a concrete reachable two-vertex ledger -/
def t0 : Trx := ⟨2, "n", "w", ⟨10, 0⟩, false⟩
def g : Vertex := ⟨1, "n", 0, 0, 0, t0, true⟩
def t1 : Trx := ⟨4, "w", "x", ⟨3, 0⟩, false⟩
def v1 : Vertex := ⟨3, "n", 1, 1, 1, t1, true⟩
def b0 : Book := { self := "n" }
def b1 : Book := (b0.createGenesis "w" ⟨10, 0⟩ g).1
def b2 : Book := (b1.createLeaf t1 [1] [] v1).1

theorem b2_reachable : Reachable b2 :=
  Reachable.createLeaf t1 [1] [] v1
    (Reachable.genesis (b := b0) (recv := "w") (spc := ⟨10, 0⟩) (v := g) (v' := g) (Reachable.init "n") rfl rfl rfl rfl rfl rfl)
    rfl

example : b2.verts.map (·.hash) = [1, 3] ∧ b2.index = [(2, 1), (4, 3)] ∧ b2.edges = [(1, 3)] := by
  decide +kernel

/-- two simultaneous proposals of `t1` whose look-ups both ran on `b1`: the second body is refused by the
atomic index test (`b2` is the ledger after the first) -/
def v1' : Vertex := ⟨5, "n", 3, 3, 2, t1, true⟩
example : insertLinked b2 v1' [3, 3] = (b2, some 1) := body_refuses_indexed_transaction b2 v1' _ (by decide +kernel)
example : CreatePre b1 t1 := ⟨⟨rfl, rfl, rfl, by decide, by decide⟩⟩

end Props.C03
