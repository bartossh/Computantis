import Proofs.Confirm
import Properties.C03
import CModel.Generated.Consts
import Proofs.OrphanBounds
/-!
# C13 — vertices arriving before their parents are parked and later admitted

The orphan buffer is `Book.parked` (FIFO; `getNext`'s comparator compares an element with itself, so the
stable sort is the identity — the FIFO order is observable in every snapshot of the correspondence).
-/
namespace Props.C13
open CModel CModel.Book

/-- `insert` of replier.go: refused when the buffer holds 500 vertices or the vertex was already
retried more than 25 times; otherwise appended with the retry counter incremented. -/
theorem park_spec (b : Book) (v : Vertex) (rep : Nat) :
    b.park v rep = if b.parked.length = 500 ∨ rep > 25 then none
                   else some { b with parked := b.parked ++ [(v, rep + 1)] } := by
  unfold park maxArraySize maxRepeats
  by_cases h1 : b.parked.length = 500
  · simp [h1]
  · by_cases h2 : rep > 25
    · simp [h1, h2]
    · simp [h1, h2]

/-- A vertex that passes the unlocked checks of `addLeafMemorized` and whose left parent is not live is handed to
`park`: parked and reported "parent missing", or, where `park` refuses (bounds exhausted), rejected with the book as
it was. The right parent is not looked at. (That parking changes only the buffer is the next theorem.) -/
theorem missing_parent_is_parked (b : Book) (v : Vertex) (rep : Nat)
    (hg : v.trx.issuer ≠ b.genesis) (hn : b.checkVertexExists v.hash = false) (ht : b.indexHas v.trx.hash = false)
    (hv : v.vok = true) (hp : b.getVertex v.left = none) :
    b.addLeafMemorized v rep =
      match b.park v rep with
      | none => (b, .error [.leafRejected])
      | some b' => (b', .error [.noParent]) := by
  unfold addLeafMemorized
  simp only [beq_iff_eq, hg, if_false, hn, Bool.false_eq_true, ht, hv, Bool.not_true]
  unfold addLeafLocked checkParents
  simp only [hp]
  cases b.park v rep <;> rfl

theorem parking_changes_only_the_buffer (b b' : Book) (v : Vertex) (rep : Nat) (h : b.park v rep = some b') :
    b'.verts = b.verts ∧ b'.edges = b.edges ∧ b'.index = b.index ∧ b'.cpVerts = b.cpVerts ∧ b'.cpFunds = b.cpFunds := by
  rw [(park_some h).1]; exact ⟨rfl, rfl, rfl, rfl, rfl⟩

/-- A retry is `addLeafMemorized` on the head of the buffer: the very same path (and the same
validation) as a first delivery. -/
theorem retry_is_same_path (b : Book) (v : Vertex) (rep : Nat) (rest : List (Vertex × Nat))
    (h : b.parked = (v, rep) :: rest) :
    b.retryParked = ((({ b with parked := rest } : Book).addLeafMemorized v rep).1,
                     some (v, (({ b with parked := rest } : Book).addLeafMemorized v rep).2)) := by
  unfold retryParked; rw [h]

/-- Whatever path a vertex took (direct, parked, retried any number of times, in any order), every
live vertex verified, no vertex or transaction is admitted twice, and what waits in the buffer passed the
sealing guards. (Sealing rules and canonical amounts of the vertices held: `Props.C10.sealing_rules`,
`Reachable.inv`.) -/
theorem nothing_invalid_nothing_twice {b : Book} (r : Reachable b) :
    (∀ v ∈ b.verts, v.vok = true) ∧ ((b.verts ++ b.cpVerts).map (·.hash)).Nodup ∧
    ((b.verts ++ b.cpVerts).map (·.trx.hash)).Nodup ∧
    (∀ p ∈ b.parked, p.1.trx.issuer ≠ p.1.signer ∧ p.1.trx.isEmpty = false) :=
  ⟨r.inv.verified, r.inv.idx.nodupV, r.inv.idx.nodupT, fun _ hp => r.inv.parkOk.sealingGuards hp⟩

/-- A parked vertex that is admitted on retry had both parents present and every tip-parent valid (as has every
vertex `addLeafMemorized` admits: the guards play no part in this). -/
theorem retry_admission_checks_parents (b : Book) (v : Vertex) (rep : Nat) (hg : AddGuards b v)
    (h : (b.addLeafMemorized v rep).2 = .ok ()) :
    ∃ l r, CheckedIn b l ∧ CheckedIn b r ∧ l.hash = v.left ∧ r.hash = v.right :=
  addLeafMemorized_parents_checked b v rep h

/-! ### Nothing is lost, nothing is invented: runs of deliveries and retry ticks

`DOp.deliver v` is `AddLeaf v` (any vertex, valid or not, any number of times), `DOp.tick` one tick of the
retry loop. `AllBenign b0 ops`: every call of the run reported "admitted", "parked: parent missing" or
"already known" - in particular no call reported an exhausted buffer / retry bound, and no validation
failed (these are visible outcomes: the node logs them, the harness reads them). -/

/-- **Every delivered vertex is in the ledger or in the buffer; nothing else entered the ledger; nothing
left it.** For every interleaving of deliveries (duplicates included) and retry ticks. -/
theorem delivered_is_admitted_or_parked (b0 : Book) (hq : b0.parked = []) (ops : List DOp) (hb : AllBenign b0 ops) :
    (∀ v, DOp.deliver v ∈ ops →
      (drun b0 ops).hasVertex v.hash = true ∨ (drun b0 ops).cpHasVertex v.hash = true ∨ v ∈ (drun b0 ops).parked.map (·.1)) ∧
    (∀ u ∈ (drun b0 ops).verts, u ∈ b0.verts ∨ DOp.deliver u ∈ ops) ∧
    (∀ u ∈ b0.verts, u ∈ (drun b0 ops).verts) ∧
    (∀ p ∈ (drun b0 ops).parked, DOp.deliver p.1 ∈ ops) :=
  have h := orphanInv_drun hq hb
  ⟨h.accounted, h.onlyDelivered, h.kept, h.parkedDelivered⟩

/-- **At quiescence the ledger is complete**: when the buffer has drained, the hash of every delivered vertex is
live, or was in storage from the start. -/
theorem quiescent_ledger_complete (b0 : Book) (hq : b0.parked = []) (ops : List DOp) (hb : AllBenign b0 ops)
    (hdone : (drun b0 ops).parked = []) (v : Vertex) (hv : DOp.deliver v ∈ ops) :
    (drun b0 ops).hasVertex v.hash = true ∨ b0.cpHasVertex v.hash = true := by
  have h := orphanInv_drun hq hb
  rcases h.accounted v hv with a | a | a
  · exact .inl a
  · exact .inr ((cpHasVertex_congr h.storage _).symm.trans a)
  · rw [hdone] at a; cases a

/-- **The order of delivery does not matter.** Two runs from the same ledger that deliver the same vertices
(in any two orders, with any duplicates and any placement of the retry ticks - parents-first delivery is
one of them) and both end with a drained buffer hold the same live vertex hashes, provided no delivered vertex has
the hash of a vertex in storage (`hfresh`; such a delivery is answered "already known" and leaves nothing live). -/
theorem delivery_order_does_not_matter (b0 : Book) (hq : b0.parked = []) (ops1 ops2 : List DOp)
    (hb1 : AllBenign b0 ops1) (hb2 : AllBenign b0 ops2)
    (hsame : ∀ v, DOp.deliver v ∈ ops1 ↔ DOp.deliver v ∈ ops2)
    (hd1 : (drun b0 ops1).parked = []) (hd2 : (drun b0 ops2).parked = [])
    (hfresh : ∀ v, DOp.deliver v ∈ ops1 → b0.cpHasVertex v.hash = false) (x : Hash) :
    (drun b0 ops1).hasVertex x = (drun b0 ops2).hasVertex x := by
  -- a vertex held after one run was there from the start, and stays, or was delivered, and is held by the other
  -- run too once its buffer has drained
  have key : ∀ o1 o2 : List DOp, AllBenign b0 o1 → AllBenign b0 o2 → (∀ v, DOp.deliver v ∈ o1 → DOp.deliver v ∈ o2) →
      (drun b0 o2).parked = [] → (∀ v, DOp.deliver v ∈ o1 → b0.cpHasVertex v.hash = false) →
      (drun b0 o1).hasVertex x = true → (drun b0 o2).hasVertex x = true := by
    intro o1 o2 b1 b2 hs d2 hf hx
    obtain ⟨u, hu, rfl⟩ := (hasVertex_iff _ x).1 hx
    rcases (orphanInv_drun hq b1).onlyDelivered u hu with h0 | hdl
    · exact (hasVertex_iff _ _).2 ⟨u, (orphanInv_drun hq b2).kept u h0, rfl⟩
    · exact (quiescent_ledger_complete b0 hq o2 b2 d2 u (hs u hdl)).resolve_right (by rw [hf u hdl]; exact Bool.false_ne_true)
  exact Bool.eq_iff_iff.2 ⟨key ops1 ops2 hb1 hb2 (fun v => (hsame v).1) hd2 hfresh,
    key ops2 ops1 hb2 hb1 (fun v => (hsame v).2) hd1 fun v hv => hfresh v ((hsame v).2 hv)⟩

/-- In a benign run every live vertex that was not live at the start is one of the delivered vertices: the very
object, all fields, not a look-alike with the same hash. -/
theorem admitted_is_what_was_delivered (b0 : Book) (hq : b0.parked = []) (ops : List DOp) (hb : AllBenign b0 ops)
    (u : Vertex) (hu : u ∈ (drun b0 ops).verts) (hnew : u ∉ b0.verts) : DOp.deliver u ∈ ops :=
  ((delivered_is_admitted_or_parked b0 hq ops hb).2.1 u hu).resolve_left hnew

/-- **Bounded buffer, bounded retries**: in every run of deliveries (any vertices, any order, any duplicates,
any outcomes) and retry ticks that starts with an empty buffer, the buffer never holds more than 500
vertices and no vertex is parked more than 26 times. -/
theorem buffer_and_retries_bounded (b0 : Book) (hq : b0.parked = []) (ops : List DOp) :
    (drun b0 ops).parked.length ≤ 500 ∧ ∀ p ∈ (drun b0 ops).parked, p.2 ≤ 26 :=
  -- `maxArraySize` is 500, `maxRepeats + 1` is 26
  show BufInv (drun b0 ops).parked from drun_bufInv_of_empty hq ops

/-- **The retries end**: from any state such a run can reach, retry ticks alone empty the buffer - within
the retries still allowed to the parked vertices (`pot`), in any case within 27 · 500 ticks - whatever the
ledger answers to each retry. A vertex whose parent never arrives is given up, not retried for ever. -/
theorem retries_end (b0 : Book) (hq : b0.parked = []) (ops : List DOp) :
    (ticks (pot (drun b0 ops).parked) (drun b0 ops)).parked = [] ∧ (ticks (27 * 500) (drun b0 ops)).parked = [] :=
  have h := drun_bufInv_of_empty hq ops
  -- `ticks_bound` counts `(maxRepeats + 2) * maxArraySize` ticks, which is 27 · 500
  ⟨ticks_empty_buffer _ _ h (Nat.le_refl _), ticks_bound _ h⟩

/-- every tick on a non-empty buffer uses up one allowed retry -/
theorem each_tick_uses_a_retry (b0 : Book) (hq : b0.parked = []) (ops : List DOp) (hne : (drun b0 ops).parked ≠ []) :
    pot ((drun b0 ops).retryParked).1.parked < pot (drun b0 ops).parked :=
  retry_uses_potential _ (drun_bufInv_of_empty hq ops) hne

/-- Copies of one vertex in the buffer do not share a retry budget: whether a retried entry is parked again
depends on its own counter and on the room in the buffer, not on how often other entries - copies of the same
vertex included - were retried. -/
theorem retry_budget_is_per_entry (b b' : Book) (v : Vertex) (rep : Nat) (hlen : b'.parked.length = b.parked.length) :
    (b.park v rep).isSome = (b'.park v rep).isSome := by
  rw [park_spec, park_spec, hlen]
  split <;> rfl

/-- an entry whose counter is within the bound is parked again whenever there is room -/
theorem within_budget_is_parked_again (b : Book) (v : Vertex) (rep : Nat) (hr : rep ≤ 25) (hl : b.parked.length < 500) :
    b.park v rep = some { b with parked := b.parked ++ [(v, rep + 1)] } := by
  rw [park_spec, if_neg (by omega)]

/-- Generated obligations: the bounds are the ones in today's source. -/
theorem gen_bounds : Generated.accountant_maxArraySize = Book.maxArraySize ∧
    Generated.accountant_maxRepeats = Book.maxRepeats := by decide

/-- Non-vacuity: a child delivered before its parent is parked, then admitted by one retry after
the parent arrived; the result equals parents-first delivery. -/
def p1 : Vertex := ⟨5, "m", 3, 3, 2, ⟨6, "w", "y", ⟨0, 0⟩, true⟩, true⟩
def c1 : Vertex := ⟨7, "m", 5, 5, 3, ⟨8, "w", "z", ⟨0, 0⟩, true⟩, true⟩
def base : Book := Props.C03.b2.addTrusted "n"
example : ((base.addLeaf c1).1.parked.map (·.1.hash)) = [7] ∧
    ((((base.addLeaf c1).1.addLeaf p1).1.retryParked).1.verts.map (·.hash)) =
    (((base.addLeaf p1).1.addLeaf c1).1.verts.map (·.hash)) ∧
    ((((base.addLeaf c1).1.addLeaf p1).1.retryParked).1.verts.map (·.hash)) = [1, 3, 5, 7] := by
  decide +kernel
/-- the same as a run: child first, then parent, then one tick; every outcome is benign, the buffer drains -/
example : AllBenign base [.deliver c1, .deliver p1, .tick] ∧ (drun base [.deliver c1, .deliver p1, .tick]).parked = [] ∧
    (drun base [.deliver c1, .deliver p1, .tick]).verts.map (·.hash) = [1, 3, 5, 7] := by
  refine ⟨⟨?_, ?_, ?_, trivial⟩, rfl, rfl⟩
  · intro r hr; cases hr; exact Or.inl rfl
  · intro r hr; cases hr; trivial
  · intro r hr; cases hr; trivial

def errOf : Except Err Unit → Err
  | .error e => e
  | .ok _ => []
/-- Non-vacuity: an orphan whose parent never arrives is parked with counter 1, re-parked by each of the next
25 ticks (reported "parent missing"), and dropped by the 26th (reported "rejected"). -/
example : ((base.addLeaf c1).1.parked.map (·.2)) = [1] ∧
    ((ticks 25 (base.addLeaf c1).1).parked.map (·.2)) = [26] ∧
    ((ticks 26 (base.addLeaf c1).1).parked) = [] ∧
    ((ticks 25 (base.addLeaf c1).1).retryParked.2.map (errOf ·.2)) = some [.leafRejected] ∧
    ((ticks 24 (base.addLeaf c1).1).retryParked.2.map (errOf ·.2)) = some [.noParent] := by
  decide +kernel

end Props.C13
