import Proofs.Conservation
import Properties.C01
/-!
# C02 — ledger-wide conservation

* `supply_identity`: for **any** set of vertices the wallets' net flows cancel — value is neither
  created nor destroyed by the flow bookkeeping; `balances_sum_to_supply` is the same identity with one wallet
  (the genesis issuer) taken out of the sums.
* The "no wallet overdrawn over the union of confirmed vertices" part is **false** of the code
  (and of the model): each tip is validated against its *own* ancestors only, so two conflicting
  spends sitting on different tips both pass and a later vertex confirms both
  (`merge_refuted`, replayed on the implementation as known finding `merge-of-conflicting-tips`).
* What does hold is the per-history statement of C01 (`Props.C01.validated_means_covered`).
-/
namespace Props.C02
open CModel CModel.Book CModel.Melange

/-- Σ_w inflow = Σ_w outflow over any vertex set and any wallet list covering it. -/
theorem supply_identity (addrs : List Addr) (hn : addrs.Nodup) (vs : List Vertex)
    (hall : ∀ v ∈ vs, v.trx.issuer ∈ addrs ∧ v.trx.receiver ∈ addrs) :
    (addrs.map (fun a => inflow a vs)).sum = (addrs.map (fun a => outflow a vs)).sum := by
  obtain ⟨h1, h2⟩ := flow_balance addrs hn vs hall
  rw [h1, h2]

/-- What all wallets other than `g` (the genesis issuer, say) received net is what `g` paid out net, without
subtraction: `Σ_{a ≠ g} inflow a + inflow g = Σ_{a ≠ g} outflow a + outflow g`. -/
theorem balances_sum_to_supply (g : Addr) (others : List Addr) (hn : (g :: others).Nodup) (vs : List Vertex)
    (hall : ∀ v ∈ vs, v.trx.issuer ∈ g :: others ∧ v.trx.receiver ∈ g :: others) :
    (others.map (fun a => inflow a vs)).sum + inflow g vs =
    (others.map (fun a => outflow a vs)).sum + outflow g vs := by
  have := supply_identity (g :: others) hn vs hall
  simp only [List.map_cons, List.sum_cons] at this
  exact (Nat.add_comm _ _).trans (this.trans (Nat.add_comm _ _))

/-- The full statement restricted to its mechanism: if two tips pass validation separately, no
wallet is overdrawn over the union of their histories. -/
def MergeSafe : Prop :=
  ∀ (b : Book) (l r : Vertex), FundsOK b → l ∈ b.verts → r ∈ b.verts →
    b.isTrusted l.signer = false → b.isTrusted r.signer = false →
    b.validateLeaf l = .ok () → b.validateLeaf r = .ok () →
    ∀ a, a ≠ b.genesis → outflow a (b.verts) ≤ inflow a (b.verts)

/-! Witness: genesis pays 10 to `w`; `v1 : w → x 10` and `v2 : w → y 10` both sit on genesis. -/
def g : Vertex := ⟨1, "n", 0, 0, 0, ⟨2, "n", "w", ⟨10, 0⟩, false⟩, true⟩
def v1 : Vertex := ⟨3, "n", 1, 1, 1, ⟨4, "w", "x", ⟨10, 0⟩, false⟩, true⟩
def v2 : Vertex := ⟨5, "m", 1, 1, 1, ⟨6, "w", "y", ⟨10, 0⟩, false⟩, true⟩
def bw : Book := { self := "n", genesis := "n", verts := [g, v1, v2], edges := [(1, 3), (1, 5)],
                   index := [(2, 1), (4, 3), (6, 5)], weight := 50, throughput := 54, loaded := true }

theorem bw_fundsOK : FundsOK bw where
  verts := by decide
  cp := by intro e he; cases he

theorem bw_validates : bw.validateLeaf v1 = .ok () ∧ bw.validateLeaf v2 = .ok () := by
  -- `supply` does not evaluate in the kernel (CModel/Spice.lean), so the fund check is not decided directly: it goes
  -- through its completeness theorem, whose hypotheses are ℕ sums over the walk and do evaluate
  constructor <;>
  · unfold validateLeaf
    rw [if_neg (by decide), if_neg (by decide), if_neg (by decide), if_neg (by decide)]
    exact validateFunds_complete bw_fundsOK _ (by decide) (by decide) (by decide) (by decide) (by decide) (by decide)

/-- **Refutation**: both conflicting spends pass validation, yet `w` received 10 and spent 20. -/
theorem merge_refuted : ¬ MergeSafe := by
  intro h
  have := h bw v1 v2 bw_fundsOK (by decide) (by decide) (by decide) (by decide)
    bw_validates.1 bw_validates.2 "w" (by decide)
  revert this
  decide

/-- What holds instead, per history: `Props.C01.validated_means_covered` for a spice transfer that is neither a
root nor sealed by a trusted node. The inequality is over the walk from the tip, not over the whole ledger. -/
theorem per_history_partial {b : Book} (r : Reachable b) (tip : Vertex) (hc : tip.trx.spice.canonB = true)
    (h : b.validateLeaf tip = .ok ()) (hnr : b.isRoot tip.hash = false) (hs : tip.trx.isSpice = true)
    (hnt : b.isTrusted tip.signer = false) :
    outflow tip.trx.issuer (walk b tip) ≤ cpVal b tip.trx.issuer + inflow tip.trx.issuer (walk b tip) := by
  rcases (Props.C01.validated_means_covered r tip hc h).2 with h1 | h1 | h1 | h1
  · rw [hnr] at h1; cases h1
  · rw [hs] at h1; cases h1
  · rw [hnt] at h1; cases h1
  · exact h1

end Props.C02
