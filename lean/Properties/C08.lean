import Proofs.WalkerProofs
import CModel.Generated.WalkerSites
import Proofs.LockExitProofs
/-!
# C08 — ledger operations never wedge the node

Protocol model: `CModel/Walker.lean` (walker goroutine of heimdalr/dag, one consumer loop, one later
DAG writer, Go's writer-preferring RWMutex). The table `Generated.walkerSites` is re-extracted from
accountant.go on every run: every early exit of every loop over the walker's id channel, with the
exit policy found in the source, whether the body takes nested read locks and whether the loop runs
under the ledger lock.

Second half (section `LockExits`): no function of the node's packages returns with a mutex held. Model:
`CModel/LockExit.lean`, the lock events on the path to each exit, over the table `Generated.lockExits`,
re-extracted on every run as well; C15 quotes the result for its handlers.
-/
namespace Props.C08
open CModel.Walker CModel.Generated

/-- The protocol instance a source site gives rise to. -/
def cfgOf (s : WalkerSite) : Cfg := { policy := s.policy, nested := s.nested, writerEarly := !s.locked }

/-- **Generated obligation**: in today's source every early exit drains the walker and every loop
runs under the ledger lock. (The same extraction from the source before the `fix:` commits: 26 sites, 20
`signalOnly`, 6 `noSignal`, the four in StreamDAG not under the lock.) -/
theorem sites_drain_and_locked : ∀ s ∈ walkerSites, s.policy = .drain ∧ s.locked = true := by decide +kernel

/-- The table is not empty (the extraction found the loops). -/
theorem sites_nonempty : walkerSites.length ≥ 20 ∧ walkerLoops ≥ 5 := by decide +kernel

/-- **Main theorem**: for every exit site of the source, every number of ancestors, every exit
point and every schedule, a state in which no thread can move is the terminated state — the walker
finished and released its read lock, the next DAG writer got the lock, nothing panicked. -/
theorem no_site_can_wedge (s : WalkerSite) (hs : s ∈ walkerSites) (n k : Nat) (st : St)
    (r : Reach (cfgOf s) n k st) (hst : stuck (cfgOf s) st = true) :
    terminated st = true ∧ st.readers = 0 ∧ st.panic = false := by
  obtain ⟨hp, hl⟩ := sites_drain_and_locked s hs
  have : cfgOf s = drainCfg s.nested := by
    unfold cfgOf drainCfg; rw [hp, hl]; rfl
  rw [this] at r hst
  exact drain_safe s.nested n k st r hst

/-- Progress: as long as the system is not terminated some thread can move (no deadlock), for the
draining policy. -/
theorem drain_progress (nested : Bool) (n k : Nat) (st : St) (r : Reach (drainCfg nested) n k st)
    (hnt : terminated st = false) : stuck (drainCfg nested) st = false := by
  cases h : stuck (drainCfg nested) st with
  | false => rfl
  | true => have := (drain_safe nested n k st r h).1; rw [this] at hnt; cases hnt

/-! Why the other policies had to go: each is a reachable wedge / panic of the protocol (explicit schedules). -/

/-- `signal <- true; return` while the producer is already committed to its next send: the producer
keeps the read lock forever, the next DAG writer never gets the lock. -/
theorem signalOnly_can_wedge :
    let c : Cfg := { policy := .signalOnly, nested := false, writerEarly := false }
    let s := run c [.P, .P, .P, .P, .C, .W] (init 2 1)
    stuck c s = true ∧ terminated s = false ∧ s.readers = 1 ∧ s.ww = true := by decide +kernel
/-- Returning without any signal (the `pourFunds` error exits): same wedge. -/
theorem noSignal_can_wedge :
    let c : Cfg := { policy := .noSignal, nested := false, writerEarly := false }
    let s := run c [.P, .P, .P, .P, .C, .W] (init 2 1)
    stuck c s = true ∧ terminated s = false ∧ s.readers = 1 ∧ s.ww = true := by decide +kernel
/-- Signalling after the producer has closed the channel (exit at the last ancestor): panic. -/
theorem signal_after_close_can_panic :
    let c : Cfg := { policy := .signalOnly, nested := false, writerEarly := false }
    (run c [.P, .P, .P, .P, .P, .C] (init 1 1)).panic = true := by decide +kernel
/-- A consumer outside the ledger lock that takes nested read locks deadlocks with a queued writer
even if it never leaves early (the pre-fix StreamDAG shape). -/
theorem unlocked_nested_consumer_can_deadlock :
    let c : Cfg := { policy := .drain, nested := true, writerEarly := true }
    let s := run c [.P, .P, .P, .W, .P] (init 2 0)
    stuck c s = true ∧ terminated s = false := by decide +kernel

/-- With fast enough consumers nothing goes wrong, which is why ordinary runs never show it:
the `signalOnly` exit again, but the signal lands before the producer commits. -/
example :
    let c : Cfg := { policy := .signalOnly, nested := false, writerEarly := false }
    terminated (run c [.P, .P, .P, .C, .P, .P, .W, .W] (init 2 1)) = true := by decide +kernel

/-! ### no exit of any function leaves a mutex held

`Generated.lockExits` is re-extracted from the node's packages on every run: the lock events on the path to
every `return` / end of body of every function and function literal that touches a mutex. -/
section LockExits
open CModel.LockExit

/-- **Generated obligation**: every exit of today's source is clean - nothing held after the deferred
releases ran, nothing released that was not held; blocks control falls out of are neutral. -/
theorem all_lock_exits_clean : ∀ e ∈ lockExits, exitOk e = true := by decide +kernel

/-- the extraction found the functions -/
theorem lock_exits_found : lockExits.length ≥ 120 ∧ lockExitFunctionsWithMutex ≥ 35 ∧ lockExitFunctionsScanned ≥ 200 := by
  decide +kernel

/-- **Main theorem**: whatever functions of the node a goroutine calls, in whatever order, and whichever
`return` each call leaves through - early error exits included - it holds no mutex afterwards. -/
theorem no_exit_leaves_a_lock_held (calls : List LockExit) (hc : ∀ e ∈ calls, e ∈ lockExits ∧ e.kind ≠ .block) :
    afterCalls calls = [] :=
  afterCalls_nil calls (fun e he => exitOk_held (all_lock_exits_clean e (hc e he).1) (hc e he).2)

/-- Non-vacuity: an early `return` between `Lock()` and a hand-written `Unlock()` is not clean, and the lock
it leaves behind is still held after any number of further calls. -/
theorem early_return_leaks :
    exitOk ⟨"gossip", "gossiper.Discover", 275, .ret, [.acquire "g.mux"]⟩ = false ∧
    ∀ pre post, "g.mux" ∈ afterCalls (pre ++ (⟨"gossip", "gossiper.Discover", 275, .ret, [.acquire "g.mux"]⟩ : LockExit) :: post) :=
  ⟨by decide +kernel, fun pre post => leak_persists pre post _ "g.mux" (by decide +kernel)⟩

/-- the hand-written release of `processLackingParent` (copy the peer table, release, then talk to the peers)
is clean as well -/
example : exitOk ⟨"gossip", "gossiper.processLackingParent", 0, .fnEnd, [.acquire "g.mux", .release "g.mux"]⟩ = true := by decide +kernel

end LockExits

end Props.C08
