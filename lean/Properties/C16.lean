import Proofs.NotaryProofs
import Proofs.NotaryFine
import Properties.C04
/-!
# C16 — contracts need the receiver; reads need proof of key ownership

Model: `CModel/Notary.lean`, the notary API as a state machine over the awaiting cache, the ledger as seen
through `CreateLeaf` (whether the ledger admits a transaction is an argument of each call, so the theorems
hold whatever the ledger decides), the challenge store and the throttle set; signatures as in C04.
All theorems quantify over every call sequence `ops` (any mix of honest and dishonest requests, replays
included) and every hash function / address decoder `c.o`.
-/
namespace Props.C16
open CModel.Tx CModel.Notary

/-- the notary starts with an empty awaiting cache over a ledger holding `base` (distinct hashes) -/
def start (base : List TrxB) : St := { sealed := base }

theorem run_inv (c : Cfg) (base : List TrxB) (hb : (base.map (·.hash)).Nodup) (ops : List Op) :
    Inv c base ops (run c (start base) ops) :=
  inv_run ops (inv_start c hb)

/-- **Contracts need the receiver.** After any sequence of notary calls, every transaction in the ledger
that was not there before either carries no data — then its issuer signature verifies — or carries data
and the receiver acted on it: the sealed transaction itself carries the receiver's verifying signature
over the issuer-signed content (confirm), or the call sequence contains a `reject` for its hash signed by
the key of its receiver address. -/
theorem contract_needs_receiver (c : Cfg) (base : List TrxB) (hb : (base.map (·.hash)).Nodup) (ops : List Op) (t : TrxB)
    (ht : t ∈ (run c (start base) ops).sealed) (hnew : t ∉ base) :
    verifyIssuer c.o t = true ∧ (t.data ≠ [] →
      verifyIssuerReceiver c.o t = true ∨
      ∃ r lo, Op.reject r lo ∈ ops ∧ r.data = t.hash ∧ r.address = t.receiver ∧ verifySH c r = true) :=
  ((run_inv c base hb ops).sealedJustified t ht).resolve_left hnew

/-- **At most once.** However calls are repeated or interleaved, no transaction hash is in the ledger twice,
and no hash is awaiting twice. -/
theorem sealed_at_most_once (c : Cfg) (base : List TrxB) (hb : (base.map (·.hash)).Nodup) (ops : List Op) :
    ((run c (start base) ops).sealed.map (·.hash)).Nodup ∧ ((run c (start base) ops).awaiting.map (·.hash)).Nodup :=
  ⟨(run_inv c base hb ops).sealedOnce, (run_inv c base hb ops).awaitingOnce⟩

/-- Everything awaiting was proposed with a verifying issuer signature and carries data. -/
theorem awaiting_are_verified_contracts (c : Cfg) (base : List TrxB) (hb : (base.map (·.hash)).Nodup) (ops : List Op) (t : TrxB)
    (ht : t ∈ (run c (start base) ops).awaiting) : verifyIssuer c.o t = true ∧ t.data ≠ [] :=
  (run_inv c base hb ops).awaitingVerified t ht

/-- **A pure transfer is sealed on the issuer signature alone**: `propose` of a transaction without data
succeeds exactly when the issuer signature verifies and the ledger admits it (and it is not there yet);
it is then in the ledger, and the awaiting cache is not involved. -/
theorem transfer_sealed_on_issuer_signature (c : Cfg) (s : St) (t : TrxB) (lo : Bool) (hd : t.data = []) :
    ((propose c s t lo).2 = .ok ↔ (verifyIssuer c.o t = true ∧ lo = true ∧ isSealed s t.hash = false)) ∧
    ((propose c s t lo).2 = .ok → t ∈ (propose c s t lo).1.sealed ∧ (propose c s t lo).1.awaiting = s.awaiting) := by
  rcases propose_cases c s t lo with ⟨hv, e⟩ | ⟨hv, ⟨hne, _⟩ | ⟨_, ⟨hs, e⟩ | ⟨s', hs, e⟩⟩⟩
  · rw [e]; exact ⟨⟨nofun, fun h => nomatch hv ▸ h.1⟩, nofun⟩
  · exact absurd hd hne
  · rw [e]
    refine ⟨⟨nofun, fun ⟨_, hlo, hns⟩ => ?_⟩, nofun⟩
    rcases sealTrx_none hs with h' | h'
    · exact nomatch hns ▸ h'
    · exact nomatch hlo ▸ h'
  · rw [e]
    have hs := sealTrx_some hs
    exact ⟨⟨fun _ => ⟨hv, hs.ledgerOk, hs.fresh⟩, fun _ => rfl⟩, fun _ => ⟨hs.sealed ▸ List.mem_cons_self, hs.awaiting⟩⟩

/-- **An invalid signature changes nothing**: neither the ledger, nor any awaiting list, nor anything else. -/
theorem bad_signature_is_noop (c : Cfg) (s : St) :
    (∀ t lo, verifyIssuer c.o t = false → propose c s t lo = (s, .errVerification)) ∧
    (∀ t lo, verifyIssuerReceiver c.o t = false → confirm c s t lo = (s, .errVerification)) ∧
    (∀ r lo, verifySH c r = false → reject c s r lo = (s, .errProcessing)) := by
  refine ⟨fun t lo h => ?_, fun t lo h => ?_, fun r lo h => ?_⟩
  · exact (propose_cases c s t lo).elim (·.2) fun h' => nomatch h ▸ h'.1
  · exact (confirm_cases c s t lo).elim (·.2) fun h' => nomatch h ▸ h'.1
  · exact (reject_cases c s r lo).elim (·.2) fun h' => nomatch h ▸ h'.1

/-- A contract (data present) is never sealed by `propose`, whatever the ledger would say. -/
theorem propose_never_seals_a_contract (c : Cfg) (s : St) (t : TrxB) (lo : Bool) (hd : t.data ≠ []) :
    (propose c s t lo).1.sealed = s.sealed := by
  rcases propose_cases c s t lo with ⟨_, e⟩ | ⟨_, ⟨_, ⟨_, e⟩ | ⟨s', _, hs, e⟩⟩ | ⟨he, _⟩⟩
  · rw [e]
  · rw [e]
  · rw [e]; exact (saveAwaiting_some hs).sealed
  · exact absurd he hd

/-- **Only the receiver takes a transaction off the awaiting list.** If a call makes an awaiting
transaction disappear, the call is a `confirm` whose transaction has the same hash and receiver and carries
verifying issuer and receiver signatures, or a `reject` for that hash whose request verifies under the
receiver's address. -/
theorem only_receiver_removes (c : Cfg) (s : St) (hn : (s.awaiting.map (·.hash)).Nodup) (op : Op) (t : TrxB) (ht : t ∈ s.awaiting)
    (hgone : t ∉ (step c s op).1.awaiting) :
    (∃ t' lo, op = .confirm t' lo ∧ t'.hash = t.hash ∧ t'.receiver = t.receiver ∧ verifyIssuerReceiver c.o t' = true) ∨
    (∃ r lo, op = .reject r lo ∧ r.data = t.hash ∧ r.address = t.receiver ∧ verifySH c r = true) := by
  rcases step_awaiting c s op with hk | ⟨h, a, t0, s1, e, ea, hop⟩
  · exact absurd (hk ht) hgone
  · obtain ⟨rfl, rfl⟩ := removeAwaiting_gone hn e ht (ea ▸ hgone)
    exact hop

/-! ## Concurrent duplicate calls: Confirm and Reject split at their lock boundaries

`Confirm` and `Reject` take the transaction off the awaiting cache under the cache mutex and seal it later
under the ledger lock; between the two halves any other call may run. `fstep` executes whole calls and
half calls in any order (`pending` holds the calls that are between their halves). -/

/-- a whole `Confirm` is its two halves run back to back -/
theorem confirm_is_two_halves (c : Cfg) (s : St) (t : TrxB) (lo : Bool) :
    (fstep c (fstep c ⟨s, []⟩ (.confirmRemove t)) (.sealAt 0 lo)).s = (confirm c s t lo).1 := by
  unfold confirm
  rw [fstep]
  cases verifyIssuerReceiver c.o t with
  | false => rfl
  | true =>
    cases removeAwaiting s t.hash t.receiver with
    | notFound => rfl
    | unauthorized => rfl
    | removed t0 s1 =>
      -- the second half runs on the one pending call; both sides are then a match on the ledger's verdict
      simp only [fstep, Bool.not_true, Bool.false_eq_true, ↓reduceIte, List.nil_append, List.getElem?_cons_zero]
      cases sealTrx s1 t lo <;> rfl

/-- a whole `Reject` is its two halves run back to back -/
theorem reject_is_two_halves (c : Cfg) (s : St) (r : SignedHash) (lo : Bool) :
    (fstep c (fstep c ⟨s, []⟩ (.rejectRemove r)) (.sealAt 0 lo)).s = (reject c s r lo).1 := by
  unfold reject
  rw [fstep]
  cases verifySH c r with
  | false => rfl
  | true =>
    cases removeAwaiting s r.data r.address with
    | notFound => rfl
    | unauthorized => rfl
    | removed t0 s1 =>
      simp only [fstep, Bool.not_true, Bool.false_eq_true, ↓reduceIte, List.nil_append, List.getElem?_cons_zero]
      cases sealRej s1 t0 lo <;> rfl

theorem frun_inv (c : Cfg) (base : List TrxB) (hb : (base.map (·.hash)).Nodup) (ops : List FOp) :
    FInv c base ops (frun c ⟨start base, []⟩ ops) :=
  finv_run ops (finv_start c hb)

/-- **Contracts need the receiver, under every interleaving.** Whatever the order in which whole calls
and the halves of concurrent `Confirm` / `Reject` calls execute, every transaction the ledger gains
carries a verifying issuer signature, and if it carries data the receiver acted: its receiver signature
verifies, or the history contains a reject request (whole or first half) for its hash signed by the
receiver's key. -/
theorem interleaved_contract_needs_receiver (c : Cfg) (base : List TrxB) (hb : (base.map (·.hash)).Nodup) (ops : List FOp) (t : TrxB)
    (ht : t ∈ (frun c ⟨start base, []⟩ ops).s.sealed) (hnew : t ∉ base) :
    verifyIssuer c.o t = true ∧ (t.data ≠ [] →
      verifyIssuerReceiver c.o t = true ∨
      ∃ r, ((∃ lo, FOp.whole (.reject r lo) ∈ ops) ∨ FOp.rejectRemove r ∈ ops) ∧
        r.data = t.hash ∧ r.address = t.receiver ∧ verifySH c r = true) := by
  obtain ⟨hv, hj⟩ := ((frun_inv c base hb ops).inv.sealedJustified t ht).resolve_left hnew
  exact ⟨hv, fun hd => justified_erase (hj hd)⟩

/-- **At most once, under every interleaving**: concurrent duplicate confirmations / rejections of one
transaction (any number of them between their halves at once) never put a hash into the ledger twice. -/
theorem interleaved_sealed_at_most_once (c : Cfg) (base : List TrxB) (hb : (base.map (·.hash)).Nodup) (ops : List FOp) :
    ((frun c ⟨start base, []⟩ ops).s.sealed.map (·.hash)).Nodup :=
  (frun_inv c base hb ops).inv.sealedOnce

/-- a call between its halves is always one the receiver authorised -/
theorem interleaved_pending_authorised (c : Cfg) (base : List TrxB) (hb : (base.map (·.hash)).Nodup) (ops : List FOp) (p : TrxB × Bool)
    (hp : p ∈ (frun c ⟨start base, []⟩ ops).pending) :
    verifyIssuer c.o p.1 = true ∧ (verifyIssuerReceiver c.o p.1 = true ∨
      ∃ r, ((∃ lo, FOp.whole (.reject r lo) ∈ ops) ∨ FOp.rejectRemove r ∈ ops) ∧
        r.data = p.1.hash ∧ r.address = p.1.receiver ∧ verifySH c r = true) :=
  have h := (frun_inv c base hb ops).pendingJustified p hp
  ⟨h.1, justified_erase h.2⟩

/-- two concurrent confirmations of one contract: only one of them gets the transaction off the awaiting
list, whatever the order of the halves (the second `confirmRemove` finds nothing) -/
theorem second_remove_finds_nothing (s s1 : St) (t t0 : TrxB)
    (e : removeAwaiting s t.hash t.receiver = .removed t0 s1) (a : Bytes) :
    removeAwaiting s1 t.hash a = .notFound := by
  have : findAwaiting s1 t.hash = none := findAwaiting_none.2 fun x hx =>
    have hx : x ∈ s.awaiting.filter (·.hash != t.hash) := (removeAwaiting_removed e).awaiting ▸ hx
    bne_iff_ne.1 (List.mem_filter.1 hx).2
  unfold removeAwaiting
  rw [this]

/-- what a verifying `SignedHash` proves: the digest is the hash of the data and the signature is by the
key the address decodes to -/
theorem signed_request_proves_key (c : Cfg) (r : SignedHash) (h : verifySH c r = true) :
    c.o.H r.data = r.hash ∧ ∃ k, c.o.addrKey r.address = some k ∧ k.length = 32 ∧ r.sig = .honest k r.hash :=
  verifyMsg_iff.mp h

/-- **Waiting lists** are returned only for the server-issued, unexpired challenge of that address, signed
by the key of that address; the call changes neither ledger nor awaiting transactions. -/
theorem waiting_authenticated (c : Cfg) (s : St) (r : SignedHash) :
    ((waiting c s r).2.1 = .ok → validChallenge s r.address r.data = true ∧ verifySH c r = true) ∧
    ((waiting c s r).2.1 ≠ .ok → (waiting c s r).2.2 = []) ∧
    (waiting c s r).1.awaiting = s.awaiting ∧ (waiting c s r).1.sealed = s.sealed := by
  obtain ⟨ea, es, _⟩ := core_eq (waiting_core c s r)
  suffices key : _ ∧ _ from ⟨key.1, key.2, ea, es⟩
  rcases waiting_cases c s r with ⟨_, e⟩ | ⟨hc, hv, ⟨s', _, e⟩ | ⟨s', ts, _, e⟩⟩ <;> rw [e]
  · exact ⟨nofun, fun _ => rfl⟩
  · exact ⟨nofun, fun _ => rfl⟩
  · exact ⟨fun _ => ⟨hc, hv⟩, fun h => absurd rfl h⟩

/-- **DAG history** is returned only for the server-issued, unexpired challenge of that address, signed by the key
of that address, and what is returned are ledger transactions naming that address. -/
theorem history_authenticated (c : Cfg) (s : St) (r : SignedHash) :
    ((history c s r).2.1 = .ok → validChallenge s r.address r.data = true ∧ verifySH c r = true ∧
        ∀ t ∈ (history c s r).2.2, t ∈ s.sealed ∧ (t.issuer = r.address ∨ t.receiver = r.address)) ∧
    ((history c s r).2.1 ≠ .ok → (history c s r).2.2 = []) := by
  rcases history_cases c s r with ⟨_, e⟩ | ⟨_, ⟨_, e⟩ | ⟨hc, hv, e⟩⟩ <;> rw [e]
  · exact ⟨nofun, fun _ => rfl⟩
  · exact ⟨nofun, fun _ => rfl⟩
  · refine ⟨fun _ => ⟨hc, hv, fun t ht => ?_⟩, fun h => absurd rfl h⟩
    have := List.mem_filter.mp ht
    exact ⟨this.1, (Bool.or_eq_true_iff.mp this.2).imp beq_iff_eq.mp beq_iff_eq.mp⟩

/-- **Balance**: only when the signed data is the caller's own address and the signature is by its key. -/
theorem balance_authenticated (c : Cfg) (s : St) (r : SignedHash) (lo : Bool) (h : (balance c s r lo).2 = .ok) :
    r.data = r.address ∧ verifySH c r = true := by
  rcases balance_cases c s r lo with ⟨_, e⟩ | ⟨_, ⟨_, e⟩ | ⟨hd, hv, _⟩⟩
  · rw [e] at h; cases h
  · rw [e] at h; cases h
  · exact ⟨hd, hv⟩

/-- An expired challenge authenticates nothing. -/
theorem expired_challenge_rejected (s : St) (a b : Bytes) : validChallenge (expireAll s) a b = false :=
  Bool.eq_false_iff.mpr fun hv => nomatch expireAll_stale (List.mem_of_find?_eq_some ((validChallenge_iff _ _ _).mp hv))

/-- A fresh challenge replaces any older one for the address: once `b` is issued, no other blob is valid for it. -/
theorem reissued_challenge_replaces (s : St) (a b b' : Bytes) (hne : b' ≠ b) : validChallenge (provideData s a b) a b' = false := by
  refine Bool.eq_false_iff.mpr fun hv => hne ?_
  have := (find?_provideData s a b).symm.trans ((validChallenge_iff _ _ _).mp hv)
  cases this
  rfl

/-- Issuing a challenge to one address does not make its blob valid for another address (`hnone`: one for which that
blob is not stored already). -/
theorem foreign_challenge_rejected (s : St) (a a' b : Bytes) (hne : a' ≠ a)
    (hnone : ∀ e ∈ s.chal, e.1 = a' → e.2.1 ≠ b) : validChallenge (provideData s a b) a' b = false := by
  refine Bool.eq_false_iff.mpr fun hv => ?_
  rcases List.mem_cons.mp (List.mem_of_find?_eq_some ((validChallenge_iff _ _ _).mp hv)) with e | hm
  · exact hne (congrArg Prod.fst e)
  · exact hnone _ (List.mem_filter.mp hm).1 rfl rfl

/-! ## Non-vacuity: a contract proposed, read by its receiver, confirmed and sealed (toy `Ops` of C04) -/

def tc : Cfg := { o := Props.C04.toyOps, dataSize := 16 }
def contract : TrxB := { Props.C04.toyTrx with rsig := .other [] }
def countersigned : TrxB := Props.C04.toyTrx
def chalReq : SignedHash :=
  let blob : Bytes := [5, 5, 5]
  let h := tc.o.H blob
  ⟨[8, 8], blob, h, .honest (List.replicate 31 0 ++ [8]) h⟩

example : (step tc (start []) (.propose contract true)).2.1 = .ok := by decide +kernel
example : (run tc (start []) [.propose contract true]).awaiting = [contract] := by decide +kernel
example : (run tc (start []) [.propose contract true]).sealed = [] := by decide +kernel
example : (run tc (start []) [.propose contract true, .confirm countersigned true]).sealed = [countersigned] := by decide +kernel
example : (run tc (start []) [.propose contract true, .confirm countersigned true]).awaiting = [] := by decide +kernel
/-- a confirmation whose receiver signature is the issuer's is refused and changes nothing -/
example : (step tc (run tc (start []) [.propose contract true]) (.confirm { contract with rsig := contract.isig } true)).2.1 = .errVerification := by
  decide +kernel
/-- the receiver reads its waiting list with the issued challenge; without one it is refused -/
example : (step tc (run tc (start []) [.propose contract true, .data [8, 8] [5, 5, 5]]) (.waiting chalReq)).2 = (.ok, [contract]) := by
  decide +kernel
example : (step tc (run tc (start []) [.propose contract true]) (.waiting chalReq)).2.1 = .errVerification := by decide +kernel
example : (step tc (run tc (start []) [.propose contract true, .data [8, 8] [5, 5, 5], .expire]) (.waiting chalReq)).2.1 = .errVerification := by
  decide +kernel
/-- two concurrent confirmations of one contract, halves interleaved: the second removal finds nothing,
one call is between its halves, and after it reaches the ledger the contract is sealed exactly once -/
example : (frun tc ⟨start [], []⟩ [.whole (.propose contract true), .confirmRemove countersigned, .confirmRemove countersigned]).pending
    = [(countersigned, false)] := by decide +kernel
example : (frun tc ⟨start [], []⟩ [.whole (.propose contract true), .confirmRemove countersigned, .confirmRemove countersigned,
    .sealAt 0 true, .sealAt 0 true]).s.sealed = [countersigned] := by decide +kernel
/-- a confirmation racing a whole second proposal + confirmation of the same contract: still sealed once -/
example : (frun tc ⟨start [], []⟩ [.whole (.propose contract true), .confirmRemove countersigned, .whole (.propose contract true),
    .whole (.confirm countersigned true), .sealAt 0 true]).s.sealed = [countersigned] := by decide +kernel

end Props.C16
