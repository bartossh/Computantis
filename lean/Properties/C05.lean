import Proofs.SpiceProofs
import CModel.Generated.Consts
/-!
# C05 — Spice arithmetic is exact, atomic and accepts only canonical amounts

Model: `CModel/Spice.lean` (spice.go, statement for statement, wrapping `UInt64`).
All statements quantify over every 64-bit word; `val m = cur·10^18 + supp` in `Nat`.
Canonicity of the operands is a hypothesis of the exactness theorems, not something `Supply` / `Transfer` test:
on a non-canonical amount they wrap (`supply_noncanonical_wraps`). That no such amount reaches them is the ledger's
ingress check (`Tag.notCanonical`, kept as `CanonInv`, Proofs/LedgerInv.lean).
-/
namespace Props.C05
open CModel CModel.Melange

/-- A successful `Supply` adds precisely the amount and leaves the receiver canonical. -/
theorem supply_exact (m a m' : Melange) (hm : Canon m) (ha : Canon a)
    (h : supply m a = (m', none)) : val m' = val m + val a ∧ Canon m' := by
  rcases supply_cases m a hm ha with ⟨r, hr, hv, hc⟩ | ⟨hr, _⟩
  · rw [hr] at h; cases h; exact ⟨hv, hc⟩
  · rw [hr] at h; cases h

/-- A failing `Supply` changes nothing (for *all* words, canonical or not). -/
theorem supply_atomic (m a m' : Melange) (e : Err) (h : supply m a = (m', some e)) : m' = m :=
  (supply_err_unchanged m a m' e h).1

/-- `Supply` fails exactly when the exact sum is not representable. -/
theorem supply_err_iff (m a : Melange) (hm : Canon m) (ha : Canon a) :
    (supply m a).2 ≠ none ↔ val m + val a ≥ capacity := by
  rcases supply_cases m a hm ha with ⟨r, hr, hv, hc⟩ | ⟨hr, hge⟩ <;> rw [hr]
  · -- the sum is the value of the canonical result
    exact ⟨fun h => absurd rfl h, fun h => absurd (hv ▸ val_lt_capacity r hc) (Nat.not_lt.2 h)⟩
  · exact ⟨fun _ => hge, fun _ => nofun⟩

/-- A successful `Transfer` moves precisely the amount; both sides stay canonical. -/
theorem transfer_exact (amt frm to f' t' : Melange) (ha : Canon amt) (hf : Canon frm) (ht : Canon to)
    (h : transfer amt frm to = (f', t', none)) :
    val f' + val amt = val frm ∧ val t' = val to + val amt ∧ Canon f' ∧ Canon t' := by
  rcases transfer_cases amt frm to ha hf ht with ⟨a, b, hr, h1, h2, h3, h4⟩ | ⟨hr, _⟩ | ⟨hr, _⟩
  · rw [hr] at h; cases h; exact ⟨h1, h2, h3, h4⟩
  · rw [hr] at h; cases h
  · rw [hr] at h; cases h

/-- A failing `Transfer` changes neither side (for all words). -/
theorem transfer_atomic (amt frm to f' t' : Melange) (e : Err)
    (h : transfer amt frm to = (f', t', some e)) : f' = frm ∧ t' = to :=
  transfer_err_unchanged amt frm to f' t' e h

/-- `Transfer` fails exactly for insufficient funds or an unrepresentable result. -/
theorem transfer_err_iff (amt frm to : Melange) (ha : Canon amt) (hf : Canon frm) (ht : Canon to) :
    (transfer amt frm to).2.2 ≠ none ↔ (val amt > val frm ∨ val to + val amt ≥ capacity) := by
  rcases transfer_cases amt frm to ha hf ht with ⟨a, b, hr, h1, h2, h3, h4⟩ | ⟨hr, hlt⟩ | ⟨hr, hge⟩ <;> rw [hr]
  · -- what the sender had covers the amount, and the receiver's sum is the value of a canonical result
    refine ⟨fun h => absurd rfl h, fun h => h.elim (fun hlt => ?_) fun hge => ?_⟩
    · exact absurd (Nat.le.intro ((Nat.add_comm _ _).trans h1)) (Nat.not_le.2 hlt)
    · exact absurd (h2 ▸ val_lt_capacity b h4) (Nat.not_lt.2 hge)
  · exact ⟨fun _ => .inl hlt, fun _ => nofun⟩
  · exact ⟨fun _ => .inr hge, fun _ => nofun⟩

/-- The error kind is truthful. -/
theorem transfer_err_kind (amt frm to : Melange) (ha : Canon amt) (hf : Canon frm) (ht : Canon to) :
    ((transfer amt frm to).2.2 = some .insufficient → val amt > val frm) ∧
    ((transfer amt frm to).2.2 = some .overflow → val to + val amt ≥ capacity) := by
  rcases transfer_cases amt frm to ha hf ht with ⟨a, b, hr, _⟩ | ⟨hr, hlt⟩ | ⟨hr, hge⟩ <;> rw [hr]
  · exact ⟨nofun, nofun⟩
  · exact ⟨fun _ => hlt, nofun⟩
  · exact ⟨nofun, fun _ => hge⟩

/-- `Drain` is `Transfer` with the receiver as source. -/
theorem drain_eq (m amt sink : Melange) : drain m amt sink = transfer amt m sink := rfl

/-- One step of a two-party history: `true` moves `amt` from `a` to `b`, `false` from `b` to `a`;
a failing transfer leaves both as they are (as `transfer_atomic` guarantees for the code). -/
def histStep (s : Melange × Melange) (op : Bool × Melange) : Melange × Melange :=
  if op.1 then
    let r := transfer op.2 s.1 s.2; (r.1, r.2.1)
  else
    let r := transfer op.2 s.2 s.1; (r.2.1, r.1)

/-- A step keeps the total and canonicity whether its transfer succeeds or fails, in either direction. -/
theorem histStep_conserves (s : Melange × Melange) (op : Bool × Melange)
    (h1 : Canon s.1) (h2 : Canon s.2) (ha : Canon op.2) :
    let s' := histStep s op
    val s'.1 + val s'.2 = val s.1 + val s.2 ∧ Canon s'.1 ∧ Canon s'.2 := by
  obtain ⟨a, b⟩ := s
  obtain ⟨d, amt⟩ := op
  cases d
  · have ⟨e, c2, c1⟩ := transfer_conserves amt b a ha h2 h1
    exact ⟨(Nat.add_comm ..).trans (e.trans (Nat.add_comm ..)), c1, c2⟩
  · exact transfer_conserves amt a b ha h1 h2

/-- **History theorem**: any sequence (any length) of canonical transfers in either direction,
succeeding or failing, preserves the total value and canonicity. -/
theorem history_conserves (ops : List (Bool × Melange)) (s : Melange × Melange)
    (h1 : Canon s.1) (h2 : Canon s.2) (ha : ∀ op ∈ ops, Canon op.2) :
    let s' := ops.foldl histStep s
    val s'.1 + val s'.2 = val s.1 + val s.2 ∧ Canon s'.1 ∧ Canon s'.2 := by
  induction ops generalizing s with
  | nil => exact ⟨rfl, h1, h2⟩
  | cons op ops ih =>
    simp only [List.foldl_cons]
    have hs := histStep_conserves s op h1 h2 (ha op (List.mem_cons_self ..))
    have := ih (histStep s op) hs.2.1 hs.2.2 (fun o ho => ha o (List.mem_cons_of_mem _ ho))
    exact ⟨this.1.trans hs.1, this.2.1, this.2.2⟩

/-- A non-canonical amount wraps silently: `(0,5) + (0, 2^64-1) = (0,4)` with no error. -/
theorem supply_noncanonical_wraps :
    supply ⟨0, 5⟩ ⟨0, 18446744073709551615⟩ = (⟨0, 4⟩, none) := by rw [supply_eq]; decide

/-- Generated obligation: the model's constant is the one in today's source. -/
theorem gen_maxSupp : Generated.spice_MaxAmountPerSupplementaryCurrency = maxSupp.toNat := by decide

/-! ### Non-vacuity -/
example : Canon ⟨18446744073709551615, 1⟩ ∧ Canon ⟨0, 999999999999999999⟩ ∧
    supply ⟨18446744073709551615, 1⟩ ⟨0, 999999999999999999⟩ = (⟨18446744073709551615, 1⟩, some .overflow) := by
  rw [supply_eq]; decide
example : transfer ⟨0, 1⟩ ⟨1, 0⟩ ⟨0, 999999999999999999⟩ = (⟨0, 999999999999999999⟩, ⟨1, 0⟩, none) := by
  rw [transfer_eq]; decide

end Props.C05
