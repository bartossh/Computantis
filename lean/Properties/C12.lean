import Properties.C11
/-!
# C12 — gossiper lists cannot be forged to suppress delivery

Same model as C11. A gossiper entry is `(named address, key that signed, signed for this item?)`;
`verifyGossipers` keeps exactly the entries signed by the named address's own key for this item.
The adversary (`Step.inject`) may send any message to anybody, with any payload, at any time; unforgeability
is the side condition `entryAllowed`: an entry that verifies for an honest node must have been produced by
that node for this item.
-/
namespace Props.C12
open CModel.Gossip Props.C11

/-- only entries signed by the named node's own key over this very item count -/
theorem only_own_signature_for_this_item_counts (es : List Entry) (a : Node) :
    a ∈ verified es ↔ ∃ e ∈ es, e.addr = a ∧ e.signer = e.addr ∧ e.forThis = true :=
  mem_verified

/-- unsigned entries, entries signed for a different item and entries signed by a different key are ignored -/
example : verified [⟨1, 98, true⟩, ⟨1, 1, false⟩, ⟨1, 2, true⟩] = [] := by decide +kernel
example : verified [⟨1, 98, true⟩, ⟨3, 3, true⟩] = [3] := by decide +kernel

/-- In every reachable state — whatever the adversary injected — an honest node that is listed (verified)
in any in-flight message has really signed this item, hence already holds it. -/
theorem listed_honest_node_really_signed (c : Cfg) (o : Node) (steps : List Step) (m : Msg)
    (hm : m ∈ (reached c o steps).inflight) (a : Node) (ha : a ∈ verified m.entries) (hon : c.honest a = true) :
    a ∈ (reached c o steps).signed ∧ ((reached c o steps).node a).admitted = true := by
  have h := reached_inv c o steps
  have hs := h.listedSigned m hm a ha hon
  exact ⟨hs, h.signedAdmitted a hs⟩

/-- **A node cannot be made to skip processing by listing it**: an honest node skips a delivered message
as "already informed" only if it already holds the item. -/
theorem skip_only_if_already_holding (c : Cfg) (o : Node) (steps : List Step) (k : Nat) (m : Msg)
    (hk : (reached c o steps).inflight[k]? = some m) (hsk : (deliver c (reached c o steps) k).2 = .skippedListed) :
    ((reached c o steps).node m.dst).admitted = true := by
  rw [deliver_some hk] at hsk
  have hc := receive_cases c { reached c o steps with inflight := (reached c o steps).inflight.eraseIdx k } m
  generalize receive c _ m = r at hc hsk
  cases hc with
  | skippedListed hh _ hl =>
    exact (listed_honest_node_really_signed c o steps m (List.mem_of_getElem? hk) m.dst hl hh).2
  | _ => cases hsk

/-- **A malicious relay cannot stop an item from reaching an honest node that has an honest path to the
origin**: with any set of dishonest nodes, any injected messages (forged lists, unauthentic payloads under
the item's hash), any delivery order and duplication — when the network is quiet, every honest node
reachable from the origin through honest nodes holds the item (honest ledgers admitting it on arrival). -/
theorem honest_path_delivery_despite_adversary (c : Cfg) (o : Node) (steps : List Step)
    (hacc : ∀ i, c.honest i = true → (c.isTrx || c.accepts i) = true)
    (hsteps : ∀ s ∈ steps, s.gossipOnly = true) (hq : (reached c o steps).inflight = [])
    (p : Node) (hp : HonestPath c o p) : ((reached c o steps).node p).admitted = true :=
  quiescent_covered (reached_inv c o steps) (reached_cov c o steps hacc hsteps) hq hp

/-- the fan-out of the model is `fanoutAt` over the node's configured peer table, so what follows holds of it -/
theorem fanout_is_fanoutAt (c : Cfg) (i : Node) (es : List Entry) : fanout c i es = fanoutAt (c.peers i) i es :=
  fanout_eq_fanoutAt c i es

/-- what a node passes on: only entries that verify (its own included) - a forged entry is not relayed -/
theorem forwarded_entries_all_verify (i : Node) (es : List Entry) (e : Entry) (he : e ∈ forwardEntries i es) :
    e.signer = e.addr ∧ e.forThis = true := by
  rcases mem_forwardEntries.mp he with ⟨_, h⟩ | rfl
  · exact h
  · exact ⟨rfl, rfl⟩

/-- **Whatever the peer table holds when the fan-out runs** - also a peer that joined after the list was
verified - a peer is left out only if the message carries an entry that verifies for it (or it is the node
itself); an entry naming it that is unsigned, signed by another key or for another item changes nothing. -/
theorem peer_table_change_cannot_suppress (peersNow : List Node) (i : Node) (es : List Entry) (p : Node)
    (hp : p ∈ peersNow) (hi : p ≠ i) (hv : p ∉ verified es) : ∃ m ∈ fanoutAt peersNow i es, m.dst = p :=
  (fanoutAt_covers i es hp).elim (fun h => absurd h (not_or.mpr ⟨hv, hi⟩)) fun ⟨m, hm, hd, _⟩ => ⟨m, hm, hd⟩

/-- and what it sends them carries verified entries only -/
theorem fanoutAt_entries_verify (peersNow : List Node) (i : Node) (es : List Entry) (m : Msg) (hm : m ∈ fanoutAt peersNow i es)
    (e : Entry) (he : e ∈ m.entries) : e.signer = e.addr ∧ e.forThis = true :=
  forwarded_entries_all_verify i es e (entries_of_mem_fanoutAt hm ▸ he)

/-! ## Non-vacuity and the repaired attack

Triangle 0—1, 0—2, 1—2 with dishonest node 2. The adversary sends node 1 an unauthentic payload under the
item's hash *before* the genuine message arrives. Since the fix (`70f787e`, the rejected copy is forgotten
again) node 1 still admits the genuine item afterwards. -/
def triCfg : Cfg :=
  { n := 3, peers := fun i => if i = 0 then [1, 2] else if i = 1 then [0, 2] else if i = 2 then [0, 1] else [],
    honest := fun i => i != 2, accepts := fun _ => true }

example : let net := reached triCfg 0 [.inject ⟨1, false, []⟩, .deliver 2, .deliver 0, .deliver 0, .deliver 0]
    net.inflight = [] ∧ (net.node 1).admitted = true := by decide +kernel
/-- the adversary's powers are bounded by unforgeability: an entry for honest node 1 that verifies cannot be
injected before node 1 signed -/
example : (inject triCfg (reached triCfg 0 []) ⟨1, true, [⟨1, 1, true⟩]⟩).inflight = (reached triCfg 0 []).inflight := by
  decide +kernel
example : HonestPath triCfg 0 1 := .hop (i := 0) (.origin rfl) (by decide) rfl

/-- Non-vacuity: the relay (1) lists itself and a forged entry for node 3 (own signature); node 3 has become a
peer of node 2 by the time it fans out: 3 gets the item, with the relay's and node 2's entries only. -/
example : (fanoutAt [1, 3] 2 [⟨1, 1, true⟩, ⟨3, 1, true⟩]) = [⟨3, true, [⟨1, 1, true⟩, ⟨2, 2, true⟩]⟩] := by decide +kernel

end Props.C12
