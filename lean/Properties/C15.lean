import CModel.Handlers
import Properties.C08
/-!
# C15 — no request can crash a node

`Generated.hazardSites` is re-extracted from notaryserver, gossip, webhooksserver, transformers, wallet
(verifier) and aeswrapper on every run: every slice→array conversion, dereference through an optional
sub-message, constant-bound slicing and ed25519 key use on a caller-supplied value, with the result of
the dominating-guard analysis (guard in the function itself, or at every call site up to three levels,
or the message was constructed locally).
-/
namespace Props.C15
open CModel.Handlers CModel.Generated

/-- Each kind of guard found in the source rejects every shape on which the guarded operation panics. This is what
entitles `runSite` to let a guarded site answer `.ok` or `.err` without looking at `panics`; no theorem below uses
it, since `runSite` is defined that way. -/
theorem guard_covers (k : HazardKind) (s : Shape) (h : panics k s = true) : rejects k s = true := by
  cases k with
  | conv32 => exact bne_iff_ne.2 (Nat.ne_of_lt (of_decide_eq_true h)) -- the guard is `!= 32`, the conversion needs `≥ 32`
  | _ => exact h

/-- In the model a guarded site never panics, whatever the shape: by the definition of `runSite`, not by an
analysis of the guard (that is `guard_covers`). -/
theorem guarded_site_never_panics (h : HazardSite) (hg : h.guarded = true) (s : Shape) : runSite h s ≠ .panic := by
  unfold runSite; rw [hg, if_pos rfl]; split <;> nofun

/-- Nor does a handler made of guarded sites. -/
theorem guarded_handler_never_panics (sites : List HazardSite) (hg : ∀ h ∈ sites, h.guarded = true)
    (sh : HazardSite → Shape) : runHandler sites sh ≠ .panic := by
  induction sites with
  | nil => nofun
  | cons h rest ih =>
    unfold runHandler
    cases hr : runSite h (sh h) with
    | ok => exact ih fun x hx => hg x (List.mem_cons_of_mem _ hx)
    | err => nofun
    | panic => exact absurd hr (guarded_site_never_panics h (hg h (List.mem_cons_self ..)) (sh h))

/-- **Generated obligation**: every hazard site of today's source is guarded. -/
theorem all_sites_guarded : ∀ h ∈ hazardSites, h.guarded = true := by decide +kernel

theorem sites_found : hazardSites.length ≥ 40 := by decide +kernel

/-- **Main theorem**: no handler assembled from the source's sites panics in the model on any assignment of shapes
(any byte lengths, any presence pattern of sub-messages, any decoded key length). What is proved is that the table
holds no unguarded site (`all_sites_guarded`); that a guard keeps its site from panicking is built into `runSite`,
justified by `guard_covers`. -/
theorem no_handler_panics (sites : List HazardSite) (hs : ∀ h ∈ sites, h ∈ hazardSites) (sh : HazardSite → Shape) :
    runHandler sites sh ≠ .panic :=
  guarded_handler_never_panics sites (fun h m => all_sites_guarded h (hs h m)) sh

/-- An unguarded conversion does panic on a short value: the obligation is not vacuous. -/
theorem unguarded_conv_panics :
    runSite ⟨"p", "f", 1, .conv32, "x", false⟩ ⟨31, true, 32⟩ = .panic := by decide

/-- A handler that returns must not keep a mutex (the next request touching the same table would never
return): every exit of every function of the node's packages is clean - the regenerated table and the
theorem are C08's (`Props.C08.all_lock_exits_clean`, `no_exit_leaves_a_lock_held`). -/
theorem handlers_release_their_locks (calls : List LockExit) (hc : ∀ e ∈ calls, e ∈ lockExits ∧ e.kind ≠ .block) :
    CModel.LockExit.afterCalls calls = [] := Props.C08.no_exit_leaves_a_lock_held calls hc

end Props.C15
