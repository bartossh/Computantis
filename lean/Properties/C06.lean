import Proofs.StreamComplete
import Properties.C03
/-!
# C06 — reported balances equal the reference sum and agree across nodes

`calculateBalance b tip a` is the model of CalculateBalance for the tip the implementation picked.
-/
namespace Props.C06
open CModel CModel.Book CModel.Melange

/-- Exactness: a returned balance is checkpoint + received − sent over the tip and its ancestors
(stated without subtraction in `Nat`), and it is canonical. -/
theorem balance_exact {b : Book} (r : Reachable b) (tip : Vertex) (ht : tip ∈ b.verts) (a : Addr) (m : Melange)
    (h : b.calculateBalance tip a = .ok m) :
    val m + outflow a (walk b tip) = cpVal b a + inflow a (walk b tip) ∧ Canon m := by
  have hf := r.fundsOK
  rcases calculateBalance_cases hf tip (hf.verts tip ht) a with ⟨m', hm, hv, hc, _⟩ | ⟨e, he, _⟩
  · rw [hm] at h; cases h; exact ⟨hv, hc⟩
  · rw [he] at h; cases h

/-- Error side. The property allows an error only for a negative sum; the model (and the code)
also fail when a partial sum is not representable, because all inflow is added before anything is
subtracted. The extra disjuncts are kept visible (known finding `balance-inflow-overflow-on-representable-sum`). -/
theorem balance_error {b : Book} (r : Reachable b) (tip : Vertex) (ht : tip ∈ b.verts) (a : Addr) (e : CModel.Err)
    (h : b.calculateBalance tip a = .error e) :
    cpVal b a + inflow a (walk b tip) < outflow a (walk b tip) ∨
    (visited b (b.ancestors tip.hash)).length < (b.ancestors tip.hash).length ∨
    inflow a (walk b tip) ≥ capacity ∨ outflow a (walk b tip) ≥ capacity ∨
    cpVal b a + inflow a (walk b tip) ≥ capacity := by
  have hf := r.fundsOK
  rcases calculateBalance_cases hf tip (hf.verts tip ht) a with ⟨m', hm, _⟩ | ⟨e', he, hd⟩
  · rw [hm] at h; cases h
  · exact hd

/-- A negative sum is never reported as a number. -/
theorem negative_is_error {b : Book} (r : Reachable b) (tip : Vertex) (ht : tip ∈ b.verts) (a : Addr)
    (hneg : cpVal b a + inflow a (walk b tip) < outflow a (walk b tip)) :
    ∃ e, b.calculateBalance tip a = .error e := by
  have hf := r.fundsOK
  rcases calculateBalance_cases hf tip (hf.verts tip ht) a with ⟨m', hm, hv, _⟩ | ⟨e', he, _⟩
  · exact absurd (Nat.le.intro ((Nat.add_comm _ _).trans hv)) (Nat.not_le.2 hneg)
  · exact ⟨e', he⟩

/-- Determinism / cross-node agreement: the result is a function of the vertices, edges and
checkpointed funds only — two books that agree on these agree on every balance, tip by tip. -/
theorem balance_deterministic (b b' : Book) (hv : b'.verts = b.verts) (he : b'.edges = b.edges)
    (hc : b'.cpFunds = b.cpFunds) (tip : Vertex) (a : Addr) :
    b'.calculateBalance tip a = b.calculateBalance tip a :=
  calculateBalance_congr hv he hc tip a

/-- Querying never changes the ledger: the model's query is a pure function of the book (it returns
no book); that the *implementation's* query leaves the snapshot unchanged is checked on every
BAL line of the correspondence. -/
theorem balance_readonly (b : Book) (tip : Vertex) (a : Addr) :
    (fun _ : Except CModel.Err Melange => b) (b.calculateBalance tip a) = b := rfl

/-- Non-vacuity on the reachable example ledger: w received 10, spent 3. -/
example : inflow "w" (walk Props.C03.b2 Props.C03.v1) = 10000000000000000000 ∧
    outflow "w" (walk Props.C03.b2 Props.C03.v1) = 3000000000000000000 := by decide +kernel

/-- **Single tip: the balance is over the whole live ledger.** When the ledger has one tip, the reported
balance is checkpointed funds + everything the wallet received − everything it sent over *all* live vertices
(the ancestor walk from the tip is complete: `ancestors` is exactly the set of strict ancestors, and in a
finite acyclic graph every vertex reaches a tip). -/
theorem balance_over_whole_ledger {b : Book} (r : Reachable b) (tip : Vertex) (ht : tip ∈ b.verts) (hl : b.leaves = [tip])
    (a : Addr) (m : Melange) (h : b.calculateBalance tip a = .ok m) :
    val m + outflow a b.verts = cpVal b a + inflow a b.verts ∧ Canon m := by
  have p := walk_perm_of_single_tip b r.edgeInv r.inv.idx.vertsNodup tip ht hl
  have := balance_exact r tip ht a m h
  rw [inflow_perm p, outflow_perm p] at this
  exact this

end Props.C06
