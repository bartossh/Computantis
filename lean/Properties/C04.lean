import Proofs.TxProofs
import Proofs.Base58
/-!
# C04 — tamper evidence of vertices and transactions

Model: `CModel/Tx.lean` — the two signed byte layouts (`trxMessage`, `vertexData`), `Verify`
(`verifyMsg`), `(*Vertex).verify` (`verifyVertex`) and the vertex-only part of AddLeaf (`ingressGate`).
SHA-256 and address decoding are parameters `o : Ops`; ed25519 is symbolic (`Sig.honest key digest`
verifies under exactly that key and digest — existential unforgeability and signature uniqueness are the
cryptographic assumptions, stated here as the definition of `sigValid`). A hash collision is the only
cryptographic escape, so each tamper-evidence theorem takes "this pair of messages is not a collision" as an
explicit hypothesis about the *two messages at hand* (satisfiable, unlike global injectivity of a hash).

The driver runs the same definitions with the executable SHA-256/base58check of `CModel/Sha256.lean`
on every mutant the harness builds from real vertices and compares the verdict with the real code.

Result: the property holds for every fixed-width signed field, for all signatures and for the
concatenation of the variable-width transaction fields; it is *false* for (a) bytes moved across the
subject|data boundary and (b) removal of the receiver's signature — both refuted below with general
witnesses, reproduced on the real code by the harness, and recorded as known findings.
-/
namespace Props.C04
open CModel.Tx

/-- Admission implies verification: a vertex that passes the ingress gate carries a transaction digest
equal to the hash of *its own* message, an issuer signature by the key its issuer address decodes to,
(if present) a receiver signature by the receiver's key, a vertex digest equal to the hash of its own
vertex data and a sealing signature by the key of its signer address; and the sealer is not the issuer. -/
theorem admitted_only_if_everything_verifies (o : Ops) (g : Bytes) (v : VertexB) (h : ingressGate o g v = .pass) :
    v.trx.issuer ≠ v.signer ∧
    o.H (trxMessage v.trx) = v.trx.hash ∧
    (∃ k, o.addrKey v.trx.issuer = some k ∧ k.length = 32 ∧ v.trx.isig = .honest k v.trx.hash) ∧
    (v.trx.rsig.isEmpty = false → ∃ k, o.addrKey v.trx.receiver = some k ∧ k.length = 32 ∧ v.trx.rsig = .honest k v.trx.hash) ∧
    o.H (vertexData v) = v.hash ∧
    (∃ k, o.addrKey v.signer = some k ∧ k.length = 32 ∧ v.sig = .honest k v.hash) := by
  obtain ⟨h1, _, _, _, hv⟩ := ingressGate_pass.mp h
  obtain ⟨hi, hr, hs⟩ := verifyVertex_iff.mp hv
  obtain ⟨hH, hk⟩ := verifyMsg_iff.mp hi
  obtain ⟨hH', hk'⟩ := verifyMsg_iff.mp hs
  exact ⟨h1, hH, hk, fun e => (verifyMsg_iff.mp (hr e)).2, hH', hk'⟩

/-- Vertex level: two verifying vertices that carry the same sealing signature agree on the vertex hash,
the transaction hash, both parents, the creation time, the weight and the sealing key — unless their
vertex data are a SHA-256 collision. Changing any of these fields of a valid vertex therefore makes
`verify` fail. -/
theorem vertex_fields_tamper_evident (o : Ops) (v v' : VertexB) (wf : v.WF) (wf' : v'.WF)
    (hv : verifyVertex o v = true) (hv' : verifyVertex o v' = true) (hsig : v'.sig = v.sig)
    (nocoll : o.H (vertexData v) = o.H (vertexData v') → vertexData v = vertexData v') :
    v'.hash = v.hash ∧ v'.trx.hash = v.trx.hash ∧ v'.left = v.left ∧ v'.right = v.right ∧
    v'.created = v.created ∧ v'.weight = v.weight ∧ o.addrKey v'.signer = o.addrKey v.signer := by
  obtain ⟨eh, ek, eH⟩ := verifyMsg_same_sig (verifyVertex_iff.mp hv).2.2 (hsig ▸ (verifyVertex_iff.mp hv').2.2)
  obtain ⟨a, b, c, d, f⟩ := vertexData_inj wf' wf (nocoll eH).symm
  exact ⟨eh, a, b, c, d, f, ek⟩

/-- Transaction level: two transactions that verify under the same issuer signature agree on the hash,
the three signed words (time, currency, supplementary currency), the issuer key and the *concatenation*
subject‖data‖issuer‖receiver — unless their messages are a SHA-256 collision. -/
theorem trx_words_tamper_evident (o : Ops) (t t' : TrxB) (wf : t.WF) (wf' : t'.WF)
    (hv : verifyIssuer o t = true) (hv' : verifyIssuer o t' = true) (hsig : t'.isig = t.isig)
    (nocoll : o.H (trxMessage t) = o.H (trxMessage t') → trxMessage t = trxMessage t') :
    t'.hash = t.hash ∧ t'.created = t.created ∧ t'.cur = t.cur ∧ t'.supp = t.supp ∧
    o.addrKey t'.issuer = o.addrKey t.issuer ∧
    t'.subject ++ t'.data ++ t'.issuer ++ t'.receiver = t.subject ++ t.data ++ t.issuer ++ t.receiver := by
  obtain ⟨eh, ek, eH⟩ := verifyIssuer_same_sig hv hv' hsig
  obtain ⟨a, b, c, d⟩ := trxMessage_inj_words wf' wf (nocoll eH).symm
  exact ⟨eh, b, c, d, ek, a⟩

/-- … and on every single field when the field boundaries did not move (any bit flip, any in-place
replacement, any swap of a field with that of another transaction of the same width). -/
theorem trx_fields_tamper_evident (o : Ops) (t t' : TrxB) (wf : t.WF) (wf' : t'.WF)
    (hv : verifyIssuer o t = true) (hv' : verifyIssuer o t' = true) (hsig : t'.isig = t.isig)
    (nocoll : o.H (trxMessage t) = o.H (trxMessage t') → trxMessage t = trxMessage t')
    (ls : t.subject.length = t'.subject.length) (ld : t.data.length = t'.data.length)
    (li : t.issuer.length = t'.issuer.length) :
    t'.subject = t.subject ∧ t'.data = t.data ∧ t'.issuer = t.issuer ∧ t'.receiver = t.receiver ∧
    t'.created = t.created ∧ t'.cur = t.cur ∧ t'.supp = t.supp ∧ t'.hash = t.hash := by
  obtain ⟨eh, _, eH⟩ := verifyIssuer_same_sig hv hv' hsig
  obtain ⟨a, b, c, d, f, g, i⟩ := trxMessage_inj wf' wf (nocoll eH).symm ls.symm ld.symm li.symm
  exact ⟨a, b, c, d, f, g, i, eh⟩

/-- Corrupting a signature (any value other than the one that verifies) is always detected: at most one
signature value verifies for a given message, digest and address. -/
theorem signature_unique (o : Ops) (msg hash addr : Bytes) (s s' : Sig)
    (h : verifyMsg o msg s hash addr = true) (h' : verifyMsg o msg s' hash addr = true) : s' = s := by
  obtain ⟨_, k, hk, _, hs⟩ := verifyMsg_iff.mp h
  obtain ⟨_, k', hk', _, hs'⟩ := verifyMsg_iff.mp h'
  rw [hk] at hk'; cases hk'; rw [hs, hs']

theorem corrupted_vertex_signature_rejected (o : Ops) (v : VertexB) (s : Sig) (hv : verifyVertex o v = true)
    (hs : s ≠ v.sig) : verifyVertex o { v with sig := s } = false :=
  -- the signature is not part of the data it signs: both vertices verify the same message
  Bool.eq_false_iff.mpr fun hc =>
    hs (signature_unique o (vertexData v) v.hash v.signer v.sig s (verifyVertex_iff.mp hv).2.2 (verifyVertex_iff.mp hc).2.2)

theorem corrupted_issuer_signature_rejected (o : Ops) (t : TrxB) (s : Sig) (hv : verifyIssuer o t = true)
    (hs : s ≠ t.isig) : verifyIssuer o { t with isig := s } = false :=
  Bool.eq_false_iff.mpr fun hc => hs (signature_unique o (trxMessage t) t.hash t.issuer t.isig s hv hc)

/-- A *corrupted* (present but wrong) receiver signature is detected. -/
theorem corrupted_receiver_signature_rejected (o : Ops) (v : VertexB) (s : Sig) (hv : verifyVertex o v = true)
    (hne : v.trx.rsig.isEmpty = false) (hs : s ≠ v.trx.rsig) (hse : s.isEmpty = false) :
    verifyVertex o { v with trx := { v.trx with rsig := s } } = false :=
  Bool.eq_false_iff.mpr fun hc =>
    hs (signature_unique o (trxMessage v.trx) v.trx.hash v.trx.receiver v.trx.rsig s
      ((verifyVertex_iff.mp hv).2.1 hne) ((verifyVertex_iff.mp hc).2.1 hse))

/-- An address that does not decode, or decodes to a key of the wrong size, never verifies anything. -/
theorem undecodable_address_rejected (o : Ops) (msg hash addr : Bytes) (s : Sig)
    (h : o.addrKey addr = none ∨ ∃ k, o.addrKey addr = some k ∧ k.length ≠ 32) : verifyMsg o msg s hash addr = false := by
  refine Bool.eq_false_iff.mpr fun hc => ?_
  obtain ⟨_, k, hk, hl, _⟩ := verifyMsg_iff.mp hc
  rcases h with h | ⟨k', hk', hl'⟩
  · rw [h] at hk; cases hk
  · rw [hk'] at hk; cases hk; exact hl' hl

/-! ## Addresses: one text per key

`realOps.addrKey` is the executable base58check decoder of `CModel/Sha256.lean` (compared with the
implementation on every address the harness builds). Since fix e7471a1 pins the version byte, decoding is
injective: a sealing-node (or issuer, or receiver) address cannot be replaced by another text that names the
same key. This is what makes "issuer ≠ sealer" (C10), which compares address texts, a statement about wallets. -/

/-- two address texts that decode to the same key are the same text -/
theorem one_address_per_key (a a' : String) (k : Bytes) (h : CModel.Crypto.addressToPubKey a = some k)
    (h' : CModel.Crypto.addressToPubKey a' = some k) : a = a' := by
  unfold CModel.Crypto.addressToPubKey at h h'
  exact String.toList_inj.mp (CModel.Crypto.addressToPubKeyC_inj a.toList a'.toList k h h')

/-- `realOps.addrKey` reads the bytes of an address as characters one by one, which loses nothing
(`byteChar_inj`), and decodes the text: so it is injective as well. -/
theorem realOps_address_injective (a a' : Bytes) (k : Bytes) (h : realOps.addrKey a = some k) (h' : realOps.addrKey a' = some k) :
    a = a' := by
  dsimp only [realOps] at h h'
  have e := congrArg String.toList (one_address_per_key _ _ k h h')
  rw [String.toList_ofList, String.toList_ofList] at e
  exact (List.map_inj_right CModel.Crypto.byteChar_inj).mp e

/-- hence different address texts that decode are different wallets: the ledger's "issuer ≠ sealer" comparison
of address texts (C10) is a comparison of keys -/
theorem different_addresses_different_keys (a a' k k' : Bytes) (h : realOps.addrKey a = some k) (h' : realOps.addrKey a' = some k')
    (hne : a ≠ a') : k ≠ k' := fun e => hne (realOps_address_injective a a' k h (e ▸ h'))

/-- with one text per key the sealing-node address is tamper-evident as well: two verifying vertices that
share the sealing signature name the same sealing address (cf. `vertex_fields_tamper_evident`) -/
theorem signer_address_tamper_evident (v v' : VertexB) (wf : v.WF) (wf' : v'.WF)
    (hv : verifyVertex realOps v = true) (hv' : verifyVertex realOps v' = true) (hsig : v'.sig = v.sig)
    (nocoll : realOps.H (vertexData v) = realOps.H (vertexData v') → vertexData v = vertexData v') :
    v'.signer = v.signer := by
  obtain ⟨_, _, _, _, _, _, ek⟩ := vertex_fields_tamper_evident realOps v v' wf wf' hv hv' hsig nocoll
  obtain ⟨_, k, hk, _, _⟩ := verifyMsg_iff.mp (verifyVertex_iff.mp hv).2.2
  exact realOps_address_injective _ _ k (ek.trans hk) hk

/-! ## Refutations (the property is false of the code for these two mutation classes) -/

/-- FINDING `boundary-shift-subject-data`: the signed message has no length prefixes, so a byte moved
from the front of `data` to the end of `subject` leaves message, hash and signatures valid. -/
theorem boundary_shift_same_message (t : TrxB) (b : UInt8) (rest : Bytes) (hd : t.data = b :: rest) :
    trxMessage { t with subject := t.subject ++ [b], data := rest } = trxMessage t := by
  rw [trxMessage, trxMessage, hd, List.append_assoc t.subject, List.singleton_append]

theorem boundary_shift_still_verifies (o : Ops) (v : VertexB) (b : UInt8) (rest : Bytes) (hd : v.trx.data = b :: rest)
    (hv : verifyVertex o v = true) :
    verifyVertex o { v with trx := { v.trx with subject := v.trx.subject ++ [b], data := rest } } = true := by
  rw [verifyVertex_iff, verifyIssuer, boundary_shift_same_message v.trx b rest hd]
  -- nothing else that `verify` looks at mentions `subject` or `data`
  exact verifyVertex_iff.mp hv

/-- … and it is admitted by the ingress gate whenever the original was (if something is left that keeps
the transaction non-empty). -/
theorem boundary_shift_admitted (o : Ops) (g : Bytes) (v : VertexB) (b : UInt8) (rest : Bytes) (hd : v.trx.data = b :: rest)
    (hne : rest ≠ [] ∨ v.trx.cur ≠ 0 ∨ v.trx.supp ≠ 0) (hp : ingressGate o g v = .pass) :
    ingressGate o g { v with trx := { v.trx with subject := v.trx.subject ++ [b], data := rest } } = .pass := by
  obtain ⟨h1, _, h3, h4, hv⟩ := ingressGate_pass.mp hp
  refine ingressGate_pass.mpr ⟨h1, ?_, h3, h4, boundary_shift_still_verifies o v b rest hd hv⟩
  rintro ⟨hr, hc, hs⟩
  rcases hne with h | h | h
  · exact h hr
  · exact h hc
  · exact h hs

/-- FINDING `receiver-signature-strip`: `verify` checks the receiver's signature only when it is present,
and nothing signed says whether it should be: stripping it from a countersigned vertex keeps it valid. -/
theorem receiver_strip_still_verifies (o : Ops) (v : VertexB) (hv : verifyVertex o v = true) :
    verifyVertex o { v with trx := { v.trx with rsig := .other [] } } = true := by
  obtain ⟨hi, _, hs⟩ := verifyVertex_iff.mp hv
  exact verifyVertex_iff.mpr ⟨hi, fun e => (nomatch e), hs⟩

/-! ## Non-vacuity: a concrete verifying, admitted vertex under a toy `Ops` -/

def toyOps : Ops where
  H := fun m => (List.replicate 31 (0 : UInt8)) ++ [UInt8.ofNat (m.foldl (fun a b => (a * 7 + b.toNat + 1) % 256) 0)]
  addrKey := fun a => if a.length = 2 then some (List.replicate 31 0 ++ a.take 1) else none

def toyTrx : TrxB :=
  let t : TrxB := ⟨[1, 2], [3], [7, 7], [8, 8], 5, 1, 0, [], .other [], .other []⟩
  let h := toyOps.H (trxMessage t)
  { t with hash := h, isig := .honest (List.replicate 31 0 ++ [7]) h, rsig := .honest (List.replicate 31 0 ++ [8]) h }

def toyVertex : VertexB :=
  let z := List.replicate 32 (0 : UInt8)
  let v : VertexB := ⟨[9, 9], 6, 51, z, z, [], .other [], toyTrx⟩
  let h := toyOps.H (vertexData v)
  { v with hash := h, sig := .honest (List.replicate 31 0 ++ [9]) h }

example : ingressGate toyOps [] toyVertex = .pass := by decide +kernel
example : toyVertex.WF := ⟨by decide, by decide, by decide, by decide, by decide⟩
example : ingressGate toyOps [] { toyVertex with weight := 52 } = .rejected := by decide +kernel
example : ingressGate toyOps [] { toyVertex with trx := { toyTrx with cur := 2 } } = .rejected := by decide +kernel
/-- the two findings, on the concrete vertex -/
example : ingressGate toyOps [] { toyVertex with trx := { toyTrx with subject := [1, 2, 3], data := [] } } = .pass := by decide +kernel
example : ingressGate toyOps [] { toyVertex with trx := { toyTrx with rsig := .other [] } } = .pass := by decide +kernel

end Props.C04
