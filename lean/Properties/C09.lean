import Proofs.DagComplete
import Proofs.Confirm
import Properties.C03
/-!
# C09 — the ledger is a well-formed DAG of self-authenticating vertices

For every reachable book (any sequence of genesis / proposals / gossip / orphan retries / trusted
toggles / truncations at any cut, including rejected and rolled-back additions and equal parents).
-/
namespace Props.C09
open CModel CModel.Book

/-- Every graph edge joins two distinct live vertices and comes from a parent the child declares:
no edge "from anything else". -/
theorem edges_only_from_declared_live_parents {b : Book} (r : Reachable b) (p c : Hash) (he : (p, c) ∈ b.edges) :
    b.hasVertex p = true ∧ p ≠ c ∧ ∃ v ∈ b.verts, v.hash = c ∧ (p = v.left ∨ p = v.right) := by
  obtain ⟨l1, _, l3⟩ := r.edgeInv.live (p, c) he
  exact ⟨l1, l3, r.edgeInv.declared (p, c) he⟩

/-- **Every declared parent that is still live has an edge; one that is not live has been checkpointed.**
For every reachable ledger (any history of proposals, gossip, orphan retries, trusted-node changes and
truncations at any cut) and every live vertex that declares parents (left parent ≠ the all-zero hash, Go's
`addedHash` sentinel — only the genesis vertex has it): each declared parent is either in the live DAG with
an edge to the vertex, or no longer live and present in the checkpointed storage. -/
theorem declared_parents_linked_or_checkpointed {b : Book} (r : Reachable b) (v : Vertex) (hv : v ∈ b.verts) (hl : v.left ≠ 0) :
    ∀ p ∈ [v.left, v.right],
      (b.hasVertex p = true ∧ (p, v.hash) ∈ b.edges) ∨ (b.hasVertex p = false ∧ b.cpHasVertex p = true) := by
  intro p hp
  simp only [List.mem_cons, List.not_mem_nil, or_false] at hp
  exact r.dagComplete.parentOK hv hl hp

/-- together with `edges_only_from_declared_live_parents`: the edge set of the live DAG is exactly
{(p, v) | v live, p a declared parent of v, p live} for vertices that declare parents -/
theorem edges_exact {b : Book} (r : Reachable b) (v : Vertex) (hv : v ∈ b.verts) (hl : v.left ≠ 0) (p : Hash)
    (hp : p = v.left ∨ p = v.right) : (p, v.hash) ∈ b.edges ↔ b.hasVertex p = true :=
  ⟨fun he => (r.edgeInv.live _ he).1, fun hlive =>
    (r.dagComplete.parentOK hv hl hp).elim (·.2) fun h' => by rw [hlive] at h'; cases h'.1⟩

/-- The graph is acyclic: there is a rank strictly increasing along every edge. -/
theorem acyclic {b : Book} (r : Reachable b) : ∃ rank : Hash → Nat, ∀ e ∈ b.edges, rank e.1 < rank e.2 :=
  r.edgeInv.acyclic

/-- Every vertex is stored under its own hash: a lookup by the hash of a live vertex returns it. -/
theorem keyed_by_own_hash {b : Book} (r : Reachable b) (v : Vertex) (hv : v ∈ b.verts) :
    b.getVertex v.hash = some v :=
  getVertex_of_mem r.inv.idx.vertsNodup hv

/-- Hash and signatures of every live vertex verified when it was admitted (`vok` is the result of
`(*Vertex).verify` on the vertex' own content; C04 proves what that result means). -/
theorem every_live_vertex_verified {b : Book} (r : Reachable b) (v : Vertex) (hv : v ∈ b.verts) : v.vok = true :=
  r.inv.verified v hv

/-- A vertex created by this node references only tips that were valid at that moment, carries
weight max(parent weights) + 1 (in `UInt64`), is sealed by this node and wraps the proposed transaction. -/
theorem created_vertex_shape (b : Book) (trx : Trx) (o1 o2 : List Hash) (tip v : Vertex)
    (h : (b.createLeaf trx o1 o2 tip).2 = .ok v) :
    ∃ l r, ValidatedIn b l ∧ ValidatedIn b r ∧ v.left = l.hash ∧ v.right = r.hash ∧
      v.weight = calcNewWeight l.weight r.weight ∧ v.signer = b.self ∧ v.trx = trx :=
  createLeaf_parents_validated b trx o1 o2 tip v h

/-- `calcNewWeight` is max + 1 whenever that does not wrap (the guard the property needs is kept visible). -/
theorem weight_is_max_plus_one (l r : UInt64) (h : l.toNat < 18446744073709551615 ∧ r.toNat < 18446744073709551615) :
    (calcNewWeight l r).toNat = max l.toNat r.toNat + 1 := by
  have succ : ∀ x : UInt64, x.toNat < 18446744073709551615 → (x + 1).toNat = x.toNat + 1 := fun x hx => by
    rw [UInt64.toNat_add, UInt64.toNat_one, Nat.mod_eq_of_lt (by omega)]
  unfold calcNewWeight
  by_cases hge : l ≥ r
  · rw [if_pos hge, succ l h.1, Nat.max_eq_left (UInt64.le_iff_toNat_le.1 hge)]
  · rw [if_neg hge, succ r h.2, Nat.max_eq_right (Nat.le_of_not_le fun hh => hge (UInt64.le_iff_toNat_le.2 hh))]

/-- Non-vacuity: the reachable example ledger of C03 (`b2_reachable`: genesis, then one created vertex) has the edge
genesis → v1, and the lookup by its hash finds v1. -/
example : (1, 3) ∈ Props.C03.b2.edges ∧ Props.C03.b2.getVertex 3 = some Props.C03.v1 := by
  constructor <;> decide

/-- A tip that is not a root and moves no funds (or was sealed by a trusted node) passes `validateLeaf` only
while BOTH its declared parents are in the live DAG: once a parent has been truncated away the tip is a dead
end. -/
theorem dead_end_tip_is_not_valid (b : Book) (leaf : Vertex) (hok : b.validateLeaf leaf = .ok ())
    (hr : b.isRoot leaf.hash = false) (hc : leaf.trx.isSpice = false ∨ b.isTrusted leaf.signer = true) :
    b.hasVertex leaf.left = true ∧ b.hasVertex leaf.right = true := by
  obtain ⟨_, _, hroot | ⟨_, hl, hrt⟩ | ⟨hs, ht, _⟩⟩ := validateLeaf_ok_cases hok
  · rw [hr] at hroot; cases hroot
  · exact ⟨hl, hrt⟩
  · rcases hc with h | h
    · rw [hs] at h; cases h
    · rw [ht] at h; cases h

/-- **A created vertex references only tips that were valid at that moment**: each parent of a vertex
`createLeafLocked` (the body of `CreateLeaf` under the ledger lock) produced passed `validateLeaf` during that very call, in a book the call itself went through;
if that parent moves no funds and is not a root there, both ITS declared parents were live there - a tip
straddling a truncation cut is never built upon. -/
theorem created_only_on_valid_tips (b : Book) (trx : Trx) (o1 o2 : List Hash) (tip v : Vertex)
    (h : (b.createLeafLocked trx o1 o2 tip).2 = .ok v) :
    ∃ l r, v.left = l.hash ∧ v.right = r.hash ∧
      (∃ bm, Steps b bm ∧ l ∈ bm.verts ∧ bm.validateLeaf l = .ok () ∧
        (bm.isRoot l.hash = false → l.trx.isSpice = false → bm.hasVertex l.left = true ∧ bm.hasVertex l.right = true)) ∧
      (∃ bm, Steps b bm ∧ r ∈ bm.verts ∧ bm.validateLeaf r = .ok () ∧
        (bm.isRoot r.hash = false → r.trx.isSpice = false → bm.hasVertex r.left = true ∧ bm.hasVertex r.right = true)) := by
  obtain ⟨l, r, ⟨bl, sl, ml, vl⟩, ⟨br, sr, mr, vr⟩, el, er, _⟩ := createLeafLocked_parents_validated b trx o1 o2 tip v h
  exact ⟨l, r, el, er,
    ⟨bl, sl, ml, vl, fun hr hs => dead_end_tip_is_not_valid bl l vl hr (Or.inl hs)⟩,
    ⟨br, sr, mr, vr, fun hr hs => dead_end_tip_is_not_valid br r vr hr (Or.inl hs)⟩⟩

/-- Non-vacuity: vertex 9 moves no funds, its right parent 3 is live, its left parent 99 is not (truncated
away): it does not pass, while the same vertex over two live parents does. -/
def straddler : Vertex := ⟨9, "m", 99, 3, 2, ⟨10, "w", "y", ⟨0, 0⟩, true⟩, true⟩
def withStraddler : Book :=
  let b := Props.C03.b2.addTrusted "n"
  { b with verts := b.verts ++ [straddler], edges := b.edges ++ [(3, 9)] }
example : withStraddler.isRoot 9 = false ∧ straddler.trx.isSpice = false ∧
    (match withStraddler.validateLeaf straddler with | .error e => e | .ok _ => []) = [.leafRejected, .idUnknown] ∧
    (match withStraddler.validateLeaf { straddler with left := 3 } with | .error e => e | .ok _ => []) = [] := by
  refine ⟨?_, ?_, ?_, ?_⟩ <;> decide +kernel

end Props.C09
