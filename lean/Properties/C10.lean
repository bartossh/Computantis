import Properties.C03
/-!
# C10 — sealing rules: no self-sealed transfers, the genesis wallet never spends, no empty transactions

For every reachable book (any sequence of local proposals, gossiped vertices — including ones
crafted by a wallet that is itself a node — and orphan-buffer replays), every vertex other than the
genesis vertex (the one without parents) obeys the golden and silver rule.
Ledgers obtained by `loadDag` are covered by `Props.C14` under the stated honest-peer hypothesis.
-/
namespace Props.C10
open CModel CModel.Book

/-- Every vertex a reachable ledger holds, live or checkpointed, has no parents (the shape `createGenesis` demands of
the genesis vertex) or carries a transaction that the sealing wallet did not issue (silver rule), that the genesis
wallet did not issue (golden rule), and that is not empty. -/
theorem sealing_rules {b : Book} (r : Reachable b) (v : Vertex) (hv : v ∈ b.verts ++ b.cpVerts) :
    (v.left = 0 ∧ v.right = 0) ∨
    (v.trx.issuer ≠ v.signer ∧ v.trx.issuer ≠ b.genesis ∧ v.trx.isEmpty = false) :=
  r.inv.sealing v hv

/-- Genesis cannot name its own issuer as receiver. -/
theorem genesis_not_to_self (b : Book) (spc : Melange) (v : Vertex) :
    (b.createGenesis b.self spc v).1 = b ∧ (b.createGenesis b.self spc v).2 = .error [.genesisRejected] := by
  unfold createGenesis; simp

/-- A genesis that succeeded pays a wallet other than the one that issued it. -/
theorem genesis_receiver_differs {b b' : Book} {recv : Addr} {spc : Melange} {v v' : Vertex}
    (h : b.createGenesis recv spc v = (b', .ok v')) : v.trx.receiver ≠ v.trx.issuer :=
  (createGenesis_ok h).2.1.notToSelf

/-- The guards are evaluated before a vertex is parked: everything in the orphan buffer already
passed them, so the retry path cannot admit a self-sealed or empty transaction. -/
theorem parked_passed_guards {b : Book} (r : Reachable b) (p : Vertex × Nat) (hp : p ∈ b.parked) :
    p.1.trx.issuer ≠ p.1.signer ∧ p.1.trx.isEmpty = false :=
  r.inv.parkOk.sealingGuards hp

/-- On a loaded ledger `AddLeaf` refuses a vertex sealed by the issuer of its transaction, and leaves the book as it
was. -/
theorem self_sealed_rejected (b : Book) (v : Vertex) (hl : b.loaded = true) (h : v.trx.issuer = v.signer) :
    b.addLeaf v = (b, .error [.ownNode]) := by
  unfold addLeaf; simp [hl, h]

/-- On a loaded ledger `AddLeaf` refuses a vertex, not self-sealed, whose transaction carries neither data nor spice,
and leaves the book as it was. -/
theorem empty_rejected (b : Book) (v : Vertex) (hl : b.loaded = true) (h1 : v.trx.issuer ≠ v.signer)
    (h : v.trx.isEmpty = true) : b.addLeaf v = (b, .error [.trxEmpty]) := by
  unfold addLeaf; simp [hl, h, h1]

/-- `addLeafMemorized` (first deliveries and retries alike) refuses a transaction issued by the genesis wallet, and
leaves the book as it was. -/
theorem genesis_issuer_rejected (b : Book) (v : Vertex) (rep : Nat) (h : v.trx.issuer = b.genesis) :
    b.addLeafMemorized v rep = (b, .error [.genesisIssuer]) := by
  unfold addLeafMemorized; simp [h]

/-- On a loaded ledger `CreateLeaf` refuses to seal a (non-empty, canonical) transaction that the node's own wallet
issued, and leaves the book as it was. -/
theorem propose_own_node_rejected (b : Book) (t : Trx) (o1 o2 : List Hash) (tip : Vertex) (hl : b.loaded = true)
    (hne : t.isEmpty = false) (hc : t.spice.canonB = true) (h : t.issuer = b.self) :
    b.createLeaf t o1 o2 tip = (b, .error [.ownNode]) := by
  unfold createLeaf; simp [hl, hne, hc, h]

/-- Non-vacuity: the reachable example ledger of C03 has a non-genesis vertex obeying the rules. -/
example : ∃ v ∈ Props.C03.b2.verts, v.left ≠ 0 ∧ v.trx.issuer ≠ v.signer :=
  ⟨Props.C03.v1, by decide +kernel, by decide, by decide⟩

end Props.C10
