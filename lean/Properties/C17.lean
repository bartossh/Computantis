import Proofs.AwaitProofs
/-!
# C17 — the awaiting-transaction index never loses or invents entries

Model: `CModel/AwaitCache.lean` (cache.go over an atomic key→bytes store, per-address lists at the
token level, including the run of empty tokens `remove` produces). With the mutex of the `fix:`
commit each of the three operations is atomic, so every concurrent execution is a sequence of these
operations in some order: the sequential theorems below are the concurrent statement. The
interleaving that the former, unlocked code allowed is kept as a witness.
-/
namespace Props.C17
open CModel.AwaitCache CModel.AwaitCache.Store

/-- After **any** sequence of operations: every stored transaction is listed for its issuer and its
receiver, and nothing else is listed. -/
theorem index_exact (ops : List Op) :
    let s := ops.foldl apply {}
    (∀ h t, s.getTrx h = some t →
      (∃ v, s.getList t.issuer = some v ∧ some h ∈ v) ∧ (∃ v, s.getList t.receiver = some v ∧ some h ∈ v)) ∧
    (∀ a v h, s.getList a = some v → some h ∈ v → ∃ t, s.getTrx h = some t ∧ (t.issuer = a ∨ t.receiver = a)) :=
  have inv := IdxInv.all_sequences ops
  ⟨fun _ t ht => ⟨(inv.lists _ _).2 ⟨t, ht, Or.inl rfl⟩, (inv.lists _ _).2 ⟨t, ht, Or.inr rfl⟩⟩,
   fun a v h hv hm => (inv.lists a h).1 ⟨v, hv, hm⟩⟩

/-- A listing returns exactly the awaiting transactions in which the address takes part. -/
theorem listing_exact (ops : List Op) (a : Addr) (l : List ATrx)
    (h : ((ops.foldl apply {}).read a).2 = some l) :
    ∀ t, t ∈ l ↔ (ops.foldl apply {}).getTrx t.hash = some t ∧ (t.issuer = a ∨ t.receiver = a) := by
  have inv := IdxInv.all_sequences ops
  intro t
  rw [read_some h]
  constructor
  · rintro ⟨x, hl, hx⟩
    obtain ⟨t', ht', hrel⟩ := (inv.lists a x).1 hl
    cases hx.symm.trans ht'
    exact ⟨inv.keyed x t hx ▸ hx, hrel⟩
  · exact fun ⟨ht, hrel⟩ => ⟨t.hash, (inv.lists a t.hash).2 ⟨t, ht, hrel⟩, ht⟩

/-- "Not found" means nothing is awaiting for that address. -/
theorem empty_listing_exact (ops : List Op) (a : Addr) (h : ((ops.foldl apply {}).read a).2 = none) :
    ∀ t, (ops.foldl apply {}).getTrx t.hash = some t → t.issuer ≠ a ∧ t.receiver ≠ a := by
  intro t ht
  have hn := mt ((IdxInv.all_sequences ops).lists a t.hash).2 (read_none h t.hash)
  exact ⟨fun e => hn ⟨t, ht, Or.inl e⟩, fun e => hn ⟨t, ht, Or.inr e⟩⟩

/-- A saved transaction is listed for both parties. -/
theorem saved_is_listed (s : Store) (t : ATrx) (h : (s.save t).2 = none) :
    (s.save t).1.getTrx t.hash = some t ∧
    (∃ v, (s.save t).1.getList t.issuer = some v ∧ some t.hash ∈ v) ∧
    (∃ v, (s.save t).1.getList t.receiver = some v ∧ some t.hash ∈ v) :=
  have hf := fresh_of_save_ok h
  ⟨by rw [getTrx_save hf, if_pos rfl], (lists_save hf _ _).2 (Or.inl ⟨rfl, Or.inl rfl⟩),
   (lists_save hf _ _).2 (Or.inl ⟨rfl, Or.inr rfl⟩)⟩

/-- Removal by the receiver takes it off both lists … -/
theorem receiver_removes (s : Store) (h : Hash) (a : Addr) (t : ATrx) (ht : s.getTrx h = some t) (hr : t.receiver = a) :
    (s.remove h a).2 = none ∧ (s.remove h a).1.getTrx h = none ∧
    (∀ v, (s.remove h a).1.getList t.issuer = some v → some h ∉ v) ∧
    (∀ v, (s.remove h a).1.getList t.receiver = some v → some h ∉ v) := by
  subst hr
  refine ⟨by rw [remove_by_receiver ht], by rw [getTrx_remove ht, if_pos rfl], ?_, ?_⟩
  · exact fun v hv hm => ((lists_remove ht _ _).1 ⟨v, hv, hm⟩).2 ⟨rfl, Or.inl rfl⟩
  · exact fun v hv hm => ((lists_remove ht _ _).1 ⟨v, hv, hm⟩).2 ⟨rfl, Or.inr rfl⟩

/-- … and nobody else can remove it. -/
theorem only_receiver_removes (s : Store) (h : Hash) (a : Addr) (t : ATrx) (ht : s.getTrx h = some t)
    (hne : t.receiver ≠ a) : s.remove h a = (s, some .unauthorized) := remove_by_non_receiver s h a t ht hne

/-- Why the lock is needed: two unlocked saves for one receiver interleaved get₁ get₂ set₁ set₂ lose
the first hash; the atomic execution keeps both. -/
theorem unlocked_loses_update :
    let s0 : Store := { lists := [("r", [some 1])] }
    (interleavedGetGetSetSet s0 "r" 2 3).getList "r" = some [some 1, some 3] := by decide +kernel

theorem locked_keeps_both :
    let s0 : Store := { lists := [("r", [some 1])] }
    ((s0.save ⟨2, "i", "r"⟩).1.save ⟨3, "j", "r"⟩).1.getList "r" = some [some 1, some 2, some 3] := by decide +kernel

end Props.C17
