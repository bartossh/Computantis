import CModel.WalletFile
import CModel.Generated.Consts
/-!
# C20 — a wallet file yields the original wallet or an error, never anything else

Statements are about `decrypt` of the ideal-AEAD model (the GOB layer is applied to the plaintext
afterwards: identical plaintext ⇒ identical wallet). `checked = true` is today's source (after the
`fix:` commit); the former behaviour is kept as `checked = false` to show what the fix removed.
-/
namespace Props.C20
open CModel.WalletFile

theorem split_eq_iff (w : World) (data : Bytes) :
    data.take nonceSize = w.nonce ∧ data.drop nonceSize = w.ct ↔ data = w.file := by
  constructor
  · rintro ⟨h1, h2⟩; rw [World.file, ← h1, ← h2, List.take_append_drop]
  · rintro rfl; rw [World.file, ← w.nonceLen]; exact ⟨List.take_left, List.drop_left⟩

theorem file_not_short (w : World) : ¬ w.file.length < nonceSize := by
  rw [World.file, List.length_append, w.nonceLen]; exact Nat.not_lt.2 (Nat.le_add_right ..)

/-- All of C20 in one equation: today's `decrypt` opens exactly the saved file under the saving key. -/
theorem decrypt_checked (w : World) (k data : Bytes) :
    w.decrypt true k data = if validKeyLen k = true ∧ k = w.key ∧ data = w.file then .ok w.plain else .err := by
  unfold World.decrypt World.open
  simp only [split_eq_iff]
  cases validKeyLen k with
  | false => simp
  | true =>
    by_cases hd : data = w.file
    · subst hd; by_cases hk : k = w.key <;> simp [hk, file_not_short]
    · simp [hd]

/-- Round trip: the saved file opens under the saving key and yields exactly the saved plaintext. -/
theorem roundtrip (w : World) (hk : validKeyLen w.key = true) : w.decrypt true w.key w.file = .ok w.plain := by
  rw [decrypt_checked, if_pos ⟨hk, rfl, rfl⟩]

/-- Any other key gives an error. -/
theorem wrong_key_is_error (w : World) (k : Bytes) (hk : k ≠ w.key) (data : Bytes) :
    w.decrypt true k data = .err := by
  rw [decrypt_checked, if_neg fun h => hk h.2.1]

/-- Any file other than the saved one — every truncation, every corruption, any garbage — gives an
error under any key: never a different wallet, never a crash. -/
theorem modified_file_is_error (w : World) (k data : Bytes) (hd : data ≠ w.file) :
    w.decrypt true k data = .err := by
  rw [decrypt_checked, if_neg fun h => hd h.2.2]

/-- The decrypt step never panics for any key and any data. -/
theorem never_panics (w : World) (k data : Bytes) : w.decrypt true k data ≠ .panic := by
  rw [decrypt_checked]; split <;> nofun

/-- What the `fix:` commit removed: without the length check every file shorter than the nonce panics
(under a key of valid length; any other key is refused before the file is looked at). -/
theorem unchecked_short_file_panics (w : World) (k data : Bytes) (hk : validKeyLen k = true)
    (hs : data.length < nonceSize) : w.decrypt false k data = .panic := by
  unfold World.decrypt; simp [hk, hs]

/-- Generated obligation: the nonce size of the model is the one in today's source. -/
theorem gen_nonceSize : CModel.Generated.aeswrapper_nonceSize = nonceSize := by decide

/-- Non-vacuity. -/
example : ({ key := List.replicate 32 1, nonce := List.replicate 12 2, plain := [9], ct := [7, 7],
             nonceLen := by decide } : World).decrypt true (List.replicate 32 1) (List.replicate 12 2 ++ [7, 7]) = .ok [9] := by
  decide +kernel

end Props.C20
