import Proofs.LocksetProofs
import CModel.Generated.Locks
/-!
# C18 — concurrent use of a node is free of data races

The property is defined by a runtime tool's judgement of real memory accesses; the decisive check is the
randomized concurrent workload run under the Go race detector on every run (section `race`, every report
is a violation with the two stacks as replay). What Lean carries is the lock-discipline argument:

1. `CModel/Lockset.lean`: goroutines as event sequences over (RW-)mutexes; a race is a reachable state in
   which two goroutines are about to access one location, one of them writing. Theorem: a location whose
   every access happens under one lock (writes exclusively, reads at least shared) never races — for all
   programs, any number of goroutines, every interleaving.
2. `CModel/Generated/Locks.lean` is regenerated from /repo on every run: every access site of the node's
   shared mutable fields with the locks syntactically held there. The theorems below state, for each such
   field, which lock guards it (or why it needs none), and are proved by evaluation of the generated table:
   dropping or narrowing a lock in the source breaks the corresponding obligation.
-/
namespace Props.C18
open CModel.Lockset

/-- Two goroutines never hold one lock in conflicting modes, in any reachable state of any program. -/
theorem conflicting_holders_impossible (prog : Gid → List Ev) (s : St) (h : Reach prog s) (i j : Gid) (hij : i ≠ j)
    (l : Lock) (ei ej : Bool) (hi : (l, ei) ∈ (s i).held) (hj : (l, ej) ∈ (s j).held) (hc : ei = true ∨ ej = true) : False := by
  obtain ⟨fi, fj⟩ := mutex_reach h i j hij l ei ej hi hj
  exact hc.elim (fun t => Bool.noConfusion (t.symm.trans fi)) fun t => Bool.noConfusion (t.symm.trans fj)

/-- location `x` is guarded by lock `l` in program `prog`: whenever a goroutine is about to access `x` it
holds `l` — exclusively for a write, in any mode for a read -/
def Guarded (prog : Gid → List Ev) (x : Loc) (l : Lock) : Prop :=
  ∀ s, Reach prog s → ∀ g w r, (s g).rest = .acc x w :: r →
    (w = true → (l, true) ∈ (s g).held) ∧ (w = false → ∃ e, (l, e) ∈ (s g).held)

/-- **Lockset soundness**: a guarded location never races — every program, every interleaving. -/
theorem guarded_location_never_races (prog : Gid → List Ev) (x : Loc) (l : Lock) (hg : Guarded prog x l)
    (s : St) (h : Reach prog s) :
    ¬ ∃ i j w w' ri rj, i ≠ j ∧ (s i).rest = .acc x w :: ri ∧ (s j).rest = .acc x w' :: rj ∧ (w = true ∨ w' = true) := by
  rintro ⟨i, j, w, w', ri, rj, hij, hi, hj, hw⟩
  -- each of the two holds `l`, exclusively if it writes
  have holds g w r (hr : (s g).rest = .acc x w :: r) : ∃ e, (l, e) ∈ (s g).held ∧ (w = true → e = true) := by
    cases w with
    | true => exact ⟨true, (hg s h g _ r hr).1 rfl, id⟩
    | false => exact ((hg s h g _ r hr).2 rfl).imp fun _ he => ⟨he, nofun⟩
  obtain ⟨ei, mi, wi⟩ := holds i w ri hi
  obtain ⟨ej, mj, wj⟩ := holds j w' rj hj
  exact conflicting_holders_impossible prog s h i j hij l ei ej mi mj (hw.imp wi wj)

/-- non-vacuity: without a lock two writers do race -/
example : Racy (start fun g => if g ≤ 1 then [.acc 7 true] else []) :=
  ⟨0, 1, 7, true, true, [], [], Nat.zero_ne_one, rfl, rfl, .inl rfl⟩

/-! ## The lock table of the current source -/
open CModel.Generated.Locks

def at_ (loc : String) : List Site := sites.filter (·.loc == loc)
def excl (l : String) (s : Site) : Bool := s.locks.contains (l, true)
def heldAny (l : String) (s : Site) : Bool := s.locks.any (·.1 == l)
/-- writes hold `l` exclusively, reads hold it in some mode; and the field really occurs -/
def guardedBy (loc l : String) (except : List String := []) : Bool :=
  !(at_ loc).isEmpty &&
  ((at_ loc).filter fun s => !except.contains s.fn).all fun s => if s.write then excl l s else heldAny l s

/-- the orphan buffer's slice (ticker goroutine vs admission path): always under the buffer's own mutex -/
theorem orphan_buffer_guarded : guardedBy "buffer.members" "buffer.mux" = true ∧
    ((at_ "buffer.members").all (excl "buffer.mux")) = true := by decide +kernel

/-- the awaiting-transaction index (C17): the three read-modify-write operations run under the cache mutex -/
theorem awaiting_index_guarded :
    (["Hippocampus.SaveAwaitedTransaction", "Hippocampus.RemoveAwaitedTransaction", "Hippocampus.ReadTransactions"].all fun f =>
      ((at_ "Hippocampus.mem").any (·.fn == f)) && (((at_ "Hippocampus.mem").filter (·.fn == f)).all (excl "Hippocampus.mux"))) = true := by
  decide +kernel

/-- the duplicate-suppression memory (C11): "seen before? then remember" is one step under the flashback mutex -/
theorem flashback_test_and_set_atomic :
    (["Flashback.HasHash", "Flashback.HasAddress"].all fun f =>
      ((at_ "Flashback.mem").any (·.fn == f)) && (((at_ "Flashback.mem").filter (·.fn == f)).all (excl "Flashback.mux"))) = true := by
  decide +kernel

/-- the challenge store -/
theorem challenge_store_guarded : guardedBy "Cache.data" "Cache.mux" = true := by decide +kernel

/-- the gossip peer table (except the shutdown path) -/
theorem peer_table_guarded : guardedBy "gossiper.nodes" "gossiper.mux" ["gossiper.closeAllNodesConnections"] = true := by
  decide +kernel

/-- ledger scalars: `lastBackup` only under the ledger lock; `dagLoaded` and `genesisPublicAddress` are
written only while the DAG is being created or loaded (the property starts once it is loaded), under the
lock; `nextWeightTruncate` is written by the loader and afterwards only by the single truncation goroutine;
the orphan buffer pointer is never reassigned. -/
theorem ledger_scalars_disciplined :
    guardedBy "AccountingBook.lastBackup" "AccountingBook.mux" = true ∧
    (((at_ "AccountingBook.dagLoaded").filter (·.write)).all fun s =>
      ["AccountingBook.CreateGenesis", "AccountingBook.LoadDag"].contains s.fn && excl "AccountingBook.mux" s) = true ∧
    (((at_ "AccountingBook.genesisPublicAddress").filter (·.write)).all fun s =>
      ["AccountingBook.CreateGenesis", "AccountingBook.LoadDag"].contains s.fn && excl "AccountingBook.mux" s) = true ∧
    -- confined: not only the writes, every access (the truncation goroutine reads and writes it without a lock)
    ((at_ "AccountingBook.nextWeightTruncate").all fun s =>
      ["AccountingBook.LoadDag", "AccountingBook.runTruncate"].contains s.fn) = true ∧
    ((at_ "AccountingBook.repeater").all fun s => !s.write) = true := by
  decide +kernel

/-- the ledger's own helpers that touch the DAG index and the orphan buffer run under the ledger lock held
exclusively by their callers -/
theorem admission_path_under_ledger_lock :
    (((at_ "AccountingBook.repeater").filter (·.fn == "AccountingBook.addLeafMemorized")).all (excl "AccountingBook.mux")) = true ∧
    (((at_ "AccountingBook.truncateSignal").filter fun s => s.fn != "AccountingBook.runTruncate").all (excl "AccountingBook.mux")) = true := by
  decide +kernel

end Props.C18
