import Proofs.TruncBalance
import Properties.C06
import CModel.Generated.Consts
/-!
# C07 — truncation is transparent

`truncateAt b cut` is the model of `truncate` once the cut vertex is known (the cut the code picks,
"the 1000th vertex of a breadth-first walk from some tip", is checked by the correspondence driver
through `cutAdmissible`; the theorems hold for *any* cut). `Reachable` contains truncation as a
constructor, so every C01/C03/C06/C10 theorem already covers ledgers before, between and after
(repeated) truncations; this file adds what is specific to the truncation step.
-/
namespace Props.C07
open CModel CModel.Book CModel.Melange

/-- A successful truncation appends to storage live vertices whose hashes are, in order, the strict ancestors of the
cut (`b.ancestors cut`); the live vertices that remain are those with any other hash; the index is untouched. -/
theorem moved_set {b : Book} {cut : Hash} (h : (b.truncateAt cut).2 = .ok ()) :
    ∃ mv, mv.map (·.hash) = b.ancestors cut ∧ (∀ v ∈ mv, v ∈ b.verts) ∧
      (b.truncateAt cut).1.cpVerts = b.cpVerts ++ mv ∧
      (b.truncateAt cut).1.verts = b.verts.filter (fun v => !(b.ancestors cut).contains v.hash) ∧
      (b.truncateAt cut).1.index = b.index := by
  obtain ⟨e1, _, hb⟩ := truncateAt_ok h
  rw [hb]
  exact ⟨_, e1, visited_sub b _, rfl, rfl, rfl⟩

/-- A failing truncation changes nothing. -/
theorem failed_truncation_is_noop {b : Book} {cut : Hash} {e : CModel.Err} (h : (b.truncateAt cut).2 = .error e) :
    (b.truncateAt cut).1 = b := truncateAt_err h

/-- No vertex or transaction is lost or duplicated: live DAG + storage hold the same vertices. -/
theorem nothing_lost {b : Book} (r : Reachable b) (cut : Hash) (v : Vertex) :
    v ∈ (b.truncateAt cut).1.verts ++ (b.truncateAt cut).1.cpVerts ↔ v ∈ b.verts ++ b.cpVerts :=
  mem_allV_truncate r.inv.idx cut v

/-- Each stays retrievable by hash with identical content. -/
theorem vertex_still_readable {b : Book} (r : Reachable b) (cut : Hash) (v : Vertex) (hv : v ∈ b.verts ++ b.cpVerts) :
    (b.truncateAt cut).1.readVertex v.hash = some v :=
  (Reachable.truncate cut r).inv.idx.readVertex ((nothing_lost r cut v).2 hv)

theorem transaction_still_readable {b : Book} (r : Reachable b) (cut : Hash) (v : Vertex) (hv : v ∈ b.verts ++ b.cpVerts) :
    (b.truncateAt cut).1.readTrxByHash v.trx.hash = some v.trx :=
  (Reachable.truncate cut r).inv.idx.readTrxByHash ((nothing_lost r cut v).2 hv)

/-- Re-submission of a checkpointed vertex or transaction keeps being rejected. -/
theorem checkpointed_vertex_rejected {b : Book} (r : Reachable b) (cut : Hash) (v : Vertex) (hv : v ∈ b.verts ++ b.cpVerts) :
    ((b.truncateAt cut).1.addLeaf v).1 = (b.truncateAt cut).1 ∧ ∃ e, ((b.truncateAt cut).1.addLeaf v).2 = .error e := by
  apply Props.C03.readd_rejected
  rw [checkVertexExists, Bool.or_eq_true, hasVertex_iff, cpHasVertex_iff]
  exact (List.mem_append.1 ((nothing_lost r cut v).2 hv)).imp (⟨v, ·, rfl⟩) (⟨v, ·, rfl⟩)

theorem checkpointed_transaction_rejected {b : Book} (r : Reachable b) (cut : Hash) (v : Vertex) (hv : v ∈ b.verts ++ b.cpVerts)
    (o1 o2 : List Hash) (tip : Vertex) :
    ((b.truncateAt cut).1.createLeaf v.trx o1 o2 tip).1 = (b.truncateAt cut).1 :=
  (Props.C03.resubmit_transaction_rejected _ v.trx o1 o2 tip
    ((indexHas_iff _ _).2 ⟨_, (Reachable.truncate cut r).inv.idx.holders v ((nothing_lost r cut v).2 hv)⟩)).1

/-- Uniqueness survives: also across repeated truncations (`Reachable` is closed under them). -/
theorem uniqueness_survives {b : Book} (r : Reachable b) (cut : Hash) :
    (((b.truncateAt cut).1.verts ++ (b.truncateAt cut).1.cpVerts).map (·.hash)).Nodup ∧
    (((b.truncateAt cut).1.verts ++ (b.truncateAt cut).1.cpVerts).map (·.trx.hash)).Nodup :=
  ⟨Props.C03.no_duplicate_vertex (Reachable.truncate cut r), Props.C03.no_duplicate_transaction (Reachable.truncate cut r)⟩

/-- Checkpointed funds stay canonical, so the exactness theorems of C01/C06 keep applying with the
checkpoint included (`cpVal`). -/
theorem funds_stay_canonical {b : Book} (r : Reachable b) (cut : Hash) : FundsOK (b.truncateAt cut).1 :=
  (Reachable.truncate cut r).fundsOK

/-- **The checkpoint is the net flow.** After a successful truncation of any reachable ledger at any cut,
the funds stored for wallet `a` are exactly what was checkpointed before plus everything `a` received minus
everything `a` spent in the moved vertices — whenever that amount is representable and not negative (the
two excluded cases are the recorded findings: a net debt is clipped to 0 (only the genesis issuer can have
one), an accumulated inflow beyond 2^64 currency units overflows). -/
theorem checkpoint_is_net_flow {b : Book} (r : Reachable b) (cut : Hash) (h : (b.truncateAt cut).2 = .ok ()) :
    ∃ mv, (b.truncateAt cut).1.cpVerts = b.cpVerts ++ mv ∧ mv.map (·.hash) = b.ancestors cut ∧
      ∀ a, cpVal b a + inflow a mv < Melange.capacity → outflow a mv < Melange.capacity →
        outflow a mv ≤ cpVal b a + inflow a mv →
        cpVal (b.truncateAt cut).1 a + outflow a mv = cpVal b a + inflow a mv := by
  obtain ⟨hh, _, hb⟩ := truncateAt_ok h
  exact ⟨_, by rw [hb], hh, fun a h1 _ => r.cpVal_moved (by rw [hb]) a h1⟩

/-- Hence the sum every later balance and fund check starts from is unchanged by the truncation for a wallet
whose moved history is fully accounted: `checkpoint' = checkpoint + in − out` is what C01/C06 add the
remaining (live) flows to. Non-vacuity: a book with one checkpoint entry. -/
example : cpVal { self := "n", cpFunds := [("w", ⟨5, 0⟩)] } "w" = 5000000000000000000 := by decide

/-- **Truncation changes no balance seen from a tip that descends from the cut.** For any reachable ledger,
any cut, any tip `t` that is the cut itself or a descendant of it, any wallet `a`: if the balance query from
`t` succeeds before and after the truncation, both report the same amount — provided the wallet's net flow over
the moved vertices is not negative (otherwise the checkpoint is clipped: the recorded genesis-issuer finding).
(For a tip that does NOT descend from the cut the statement is false: recorded finding
`stale-tip-credited-with-foreign-checkpoint`.) -/
theorem balance_unchanged_above_cut {b : Book} (r : Reachable b) (cut : Hash) (hok : (b.truncateAt cut).2 = .ok ())
    (t : Vertex) (ht : t ∈ (b.truncateAt cut).1.verts) (hdesc : t.hash = cut ∨ Anc b.edges cut t.hash)
    (a : Addr) (m m' : Melange) (hb : b.calculateBalance t a = .ok m) (ha : (b.truncateAt cut).1.calculateBalance t a = .ok m') :
    ∃ mv, (b.truncateAt cut).1.cpVerts = b.cpVerts ++ mv ∧
      (outflow a mv ≤ cpVal b a + inflow a mv → val m' = val m) := by
  obtain ⟨_, _, hb'⟩ := truncateAt_ok hok
  refine ⟨_, by rw [hb'], fun hcov => ?_⟩
  have htb : t ∈ b.verts := by rw [hb'] at ht; exact (List.mem_filter.mp ht).1
  -- before: the balance is exact, and no partial sum of the query left the representable range
  rcases calculateBalance_cases r.fundsOK t (r.fundsOK.verts t htb) a with ⟨m0, h0, e1, _, _, bound⟩ | ⟨e, h0, _⟩ <;>
    rw [hb] at h0 <;> cases h0
  have e2 := (Props.C06.balance_exact (.truncate cut r) t ht a m' ha).1
  -- the walk from `t` before the truncation is the walk after it plus the moved vertices
  have p := walk_split b r.edgeInv r.inv.idx.vertsNodup cut (b.truncateAt cut).1 (by rw [hb']) (by rw [hb']) t ht hdesc
  rw [inflow_perm p, inflow_append] at e1 bound
  rw [outflow_perm p, outflow_append] at e1
  exact balance_shift e1 bound e2 fun h1 => r.cpVal_moved (b' := (b.truncateAt cut).1) (by rw [hb']) a h1 hcov

/-- Generated obligation: the distance `truncateDiff` of the truncation rule is the constant in today's source. -/
theorem gen_truncateDiff : Generated.accountant_truncateDiff = Book.truncateDiff := by decide
/-- Generated obligation: so is the throughput a ledger starts with. -/
theorem gen_initialThroughput : Generated.accountant_initialThroughput = Book.initialThroughput.toNat := by decide

/-- The trigger predicate of the truncate loop (compared exhaustively on boundary values by the harness). -/
theorem trigger_spec (c d : UInt64) :
    checkCanTruncate c d = (decide (c > d) && decide (c > 1000) && decide (c - 1000 > d)) := rfl

/-- Non-vacuity: truncating the reachable example ledger of C03 at its tip moves the genesis vertex
to storage and keeps it readable. -/
example : (Props.C03.b2.truncateAt 3).1.cpVerts.map (·.hash) = [1] ∧
    (Props.C03.b2.truncateAt 3).1.readVertex 1 = some Props.C03.g := by
  decide +kernel

end Props.C07
