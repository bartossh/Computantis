import Proofs.Confirm
import Properties.C03
/-!
# C01 — no confirmed transfer overdraws its issuer within the history it builds on

"Confirmed" = referenced as a parent. In the model a vertex acquires a child only inside
`createLeaf` (local proposal) or `addLeafMemorized` (gossip / orphan retry). The theorems say:
every vertex that becomes a parent passed `validateLeaf` in an intermediate book of that very call
(`ValidatedIn` / `CheckedIn`), and passing `validateLeaf` means that checkpoint + inflow
covers the issuer's outflow over the vertex and its ancestors — unless it is a root, a non-spice
transaction, or sealed by a trusted node (the only three exemptions). The converse, `covered_means_validated`,
is about the fund check alone and needs the sums to be representable.
Sums are in `Nat`; `walk b v = v :: ancestors`; `cpVal` = checkpointed funds.
-/
namespace Props.C01
open CModel CModel.Book CModel.Melange

/-- Passing validation means the funds cover (exemptions listed explicitly). For every book whose amounts are
canonical, all vertices, all amounts. -/
theorem validated_means_covered' {b : Book} (hf : FundsOK b) (leaf : Vertex) (hc : Canon leaf.trx.spice)
    (h : b.validateLeaf leaf = .ok ()) :
    b.isRoot leaf.hash = true ∨ leaf.trx.isSpice = false ∨ b.isTrusted leaf.signer = true ∨
     outflow leaf.trx.issuer (walk b leaf) ≤ cpVal b leaf.trx.issuer + inflow leaf.trx.issuer (walk b leaf) :=
  (validateLeaf_ok hf leaf hc h).2.2

/-- Intermediate books of a call keep the funds invariant, so `validated_means_covered'` applies
to every `ValidatedIn` / `CheckedIn` witness. -/
theorem intermediate_fundsOK {b bm : Book} (r : Reachable b) (s : Steps b bm) : FundsOK bm :=
  (r.steps s).fundsOK

/-- The same for reachable books, together with what validation also tested: the vertex verifies (`vok`). -/
theorem validated_means_covered {b : Book} (r : Reachable b) (leaf : Vertex) (hc : leaf.trx.spice.canonB = true)
    (h : b.validateLeaf leaf = .ok ()) :
    leaf.vok = true ∧
    (b.isRoot leaf.hash = true ∨ leaf.trx.isSpice = false ∨ b.isTrusted leaf.signer = true ∨
     outflow leaf.trx.issuer (walk b leaf) ≤ cpVal b leaf.trx.issuer + inflow leaf.trx.issuer (walk b leaf)) :=
  have hc' := (canonB_iff _).1 hc
  ⟨(validateLeaf_ok r.fundsOK leaf hc' h).1, validated_means_covered' r.fundsOK leaf hc' h⟩

/-- Conversely the fund check `validateFunds` (the branch of `validateLeaf` that a spice transfer reaches when it
is neither a root nor sealed by a trusted node) is complete: if the sums stay representable, the history resolves
and the vertices verify, a covered transfer passes it. -/
theorem covered_means_validated {b : Book} (hf : FundsOK b) (leaf : Vertex) (hleaf : Canon leaf.trx.spice)
    (hres : (visited b (b.ancestors leaf.hash)).length = (b.ancestors leaf.hash).length)
    (hvok : ∀ v ∈ b.verts, v.vok = true)
    (hin : cpVal b leaf.trx.issuer + inflow leaf.trx.issuer (walk b leaf) < capacity)
    (hout : outflow leaf.trx.issuer (walk b leaf) < capacity)
    (hcov : outflow leaf.trx.issuer (walk b leaf) ≤ cpVal b leaf.trx.issuer + inflow leaf.trx.issuer (walk b leaf)) :
    validateFunds b leaf = .ok () :=
  validateFunds_complete hf leaf hleaf hres hvok hin hout hcov

/-- Local proposals: both parents of the new vertex passed `validateLeaf` during the call (that the new vertex
has weight max+1 and is sealed by this node is part of `createLeaf_parents_validated`). -/
theorem propose_confirms_only_validated (b : Book) (trx : Trx) (o1 o2 : List Hash) (tip v : Vertex)
    (h : (b.createLeaf trx o1 o2 tip).2 = .ok v) :
    ∃ l r, ValidatedIn b l ∧ ValidatedIn b r ∧ v.left = l.hash ∧ v.right = r.hash :=
  let ⟨l, r, h1, h2, h3, h4, _⟩ := createLeaf_parents_validated b trx o1 o2 tip v h
  ⟨l, r, h1, h2, h3, h4⟩

/-- Gossip: a vertex is admitted only if both declared parents are present and every parent that
is still a tip passes `validateLeaf` in that call. -/
theorem gossip_confirms_only_validated (b : Book) (leaf : Vertex)
    (h : (b.addLeaf leaf).2 = .ok ()) :
    ∃ l r, CheckedIn b l ∧ CheckedIn b r ∧ l.hash = leaf.left ∧ r.hash = leaf.right := by
  rcases addLeaf_cases b leaf with ⟨e, he, _⟩ | ⟨_, he⟩ <;> rw [he] at h
  · cases h
  · exact addLeafMemorized_parents_checked b leaf 0 h

/-- Orphan retries go through the same path, `addLeafMemorized`: the conclusion holds for every call of it that
succeeds, so where a retry takes vertex and counter from (the hypotheses about `b`) plays no part. -/
theorem retry_confirms_only_validated {b : Book} (r : Reachable b) (v : Vertex) (rep : Nat)
    (hp : (v, rep) ∈ b.parked) (b0 : Book) (h : (b0.addLeafMemorized v rep).2 = .ok ()) (hl : b0.loaded = b.loaded) :
    ∃ l r, CheckedIn b0 l ∧ CheckedIn b0 r ∧ l.hash = v.left ∧ r.hash = v.right :=
  addLeafMemorized_parents_checked b0 v rep h

/-- **Validation happens under the lock, on the book of that moment.** Whatever the unlocked look-ups of a
delivery or proposal saw earlier (`Proofs/StaleGuards.lean`), the parents a successful locked body confirms
were validated against the ledger as it was while the lock was held (so nothing about `b0` is needed). -/
theorem stale_delivery_confirms_only_validated {b0 b1 : Book} (r0 : Reachable b0) (bt : Between b0 b1) (leaf : Vertex) (rep : Nat)
    (pre : AddPre b0 leaf) (h : (b1.addLeafLocked leaf rep).2 = .ok ()) :
    ∃ l r, CheckedIn b1 l ∧ CheckedIn b1 r ∧ l.hash = leaf.left ∧ r.hash = leaf.right :=
  addLeafLocked_parents_checked b1 leaf rep h

theorem stale_proposal_confirms_only_validated (b1 : Book) (trx : Trx) (o1 o2 : List Hash) (tip v : Vertex)
    (h : (b1.createLeafLocked trx o1 o2 tip).2 = .ok v) :
    ∃ l r, ValidatedIn b1 l ∧ ValidatedIn b1 r ∧ v.left = l.hash ∧ v.right = r.hash :=
  let ⟨l, r, h1, h2, h3, h4, _⟩ := createLeafLocked_parents_validated b1 trx o1 o2 tip v h
  ⟨l, r, h1, h2, h3, h4⟩

/-- A tentative tip that fails the test is dropped together with its index entry and edges. -/
theorem failing_tip_dropped (st : GVL) (v : Vertex) (e : CModel.Err) (h : st.book.validateLeaf v = .error e) :
    (visitTip st v).book.hasVertex v.hash = false ∧ (visitTip st v).book.indexHas v.trx.hash = false ∧
    (∀ x ∈ (visitTip st v).book.edges, x.1 ≠ v.hash ∧ x.2 ≠ v.hash) := by
  unfold visitTip
  rw [h]
  simp only [hasVertex, indexHas, updateWT_verts, updateWT_index, updateWT_edges, indexRemove_verts, deleteVertex_verts,
    indexRemove_index, deleteVertex_index, indexRemove_edges, deleteVertex_edges]
  refine ⟨by simp [List.any_filter], by simp [List.any_filter], fun x hx => ?_⟩
  simp only [List.mem_filter, Bool.and_eq_true, bne_iff_ne, ne_eq] at hx
  exact hx.2

/-- Non-vacuity: in the reachable example ledger the spend `v1` (3 out of 10 received) is covered. -/
example : outflow "w" [Props.C03.v1, Props.C03.g] ≤ inflow "w" [Props.C03.v1, Props.C03.g] := by decide +kernel

end Props.C01
