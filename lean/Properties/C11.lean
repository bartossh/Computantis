import Proofs.GossipProofs
/-!
# C11 — gossip reaches every node exactly once and terminates

Model: `CModel/Gossip.lean`, one item (vertex or awaiting transaction) travelling through any network of
gossip nodes: arbitrary peer tables, any origin, any order of deliveries, duplicated messages, adversarial
injections (C12) and late admissions by the orphan buffer. Executions are `run c (originate c init o) steps`
for an arbitrary list of steps — every schedule, no bound on nodes, degree or length.
-/
namespace Props.C11
open CModel.Gossip

/-- every state reachable after node `o` originated the item -/
def reached (c : Cfg) (o : Node) (steps : List Step) : Net := run c (originate c init o) steps

theorem reached_inv (c : Cfg) (o : Node) (steps : List Step) : Inv c o (reached c o steps) :=
  inv_run steps (inv_originate c o)

theorem reached_cov (c : Cfg) (o : Node) (steps : List Step) (hacc : ∀ i, c.honest i = true → (c.isTrx || c.accepts i) = true)
    (hsteps : ∀ s ∈ steps, s.gossipOnly = true) : Cov c (reached c o steps) :=
  cov_run steps hsteps (inv_originate c o) hacc (cov_originate c o)

/-- **A node forwards a given vertex at most once**, whatever is delivered, duplicated or injected. -/
theorem vertex_forwarded_at_most_once (c : Cfg) (hv : c.isTrx = false) (o : Node) (steps : List Step) (i : Node) :
    ((reached c o steps).node i).forwards ≤ 1 :=
  Nat.le_trans (((reached_inv c o steps).node i).fwdVertex hv) (ite_le_one _)

/-- An awaiting transaction (or a vertex: the statement does not ask which) is forwarded at most once by every node
other than its origin, and at most twice by the origin, which does not record its own item in the
duplicate-suppression memory. -/
theorem transaction_forwarded_at_most_once (c : Cfg) (o : Node) (steps : List Step) (i : Node) :
    (i ≠ o → ((reached c o steps).node i).forwards ≤ 1) ∧ ((reached c o steps).node o).forwards ≤ 2 := by
  have h := fun j => ((reached_inv c o steps).node j).fwd
  refine ⟨fun e => ?_, ?_⟩
  · have := h i
    rw [if_neg e, Nat.zero_add] at this
    exact Nat.le_trans this (ite_le_one _)
  · have := h o
    rw [if_pos rfl] at this
    exact Nat.le_trans this (Nat.add_le_add_left (ite_le_one _) 1)

/-- **The number of messages is finite**: for a vertex, a node puts at most one message per entry of its peer table
on the wire, for every schedule. -/
theorem vertex_messages_bounded (c : Cfg) (hv : c.isTrx = false) (o : Node) (steps : List Step) (i : Node) :
    ((reached c o steps).node i).sentTo.length ≤ (c.peers i).length :=
  -- sent ≤ forwards · degree ≤ 1 · degree
  Nat.le_trans ((reached_inv c o steps).node i).sent
    (Nat.le_trans (Nat.mul_le_mul_right _ (vertex_forwarded_at_most_once c hv o steps i)) (Nat.le_of_eq (Nat.one_mul _)))

/-- **Never forwarded to a node already listed as a verified gossiper**, and every forwarded message lists
exactly the verified entries it arrived with plus the forwarder. -/
theorem never_forwarded_to_verified_gossiper (c : Cfg) (i : Node) (es : List Entry) (m : Msg) (h : m ∈ fanout c i es) :
    m.dst ∈ c.peers i ∧ m.dst ∉ verified m.entries ∧ verified m.entries = verified es ++ [i] := by
  obtain ⟨⟨hp, hn⟩, _, he⟩ := mem_fanoutAt.mp (fanout_eq_fanoutAt c i es ▸ h)
  rw [he]
  exact ⟨hp, fun hv => hn (mem_verified_forwardEntries.mp hv), verified_forwardEntries i es⟩

/-- **A node forwards only after its own ledger (vertices) or signature check (transactions) accepted the
item**: any delivery that puts new messages on the wire is an authentic copy that the node admitted. -/
theorem forwards_only_after_accepting (c : Cfg) (net : Net) (m : Msg)
    (h : (receive c net m).1.inflight ≠ net.inflight ∨ (receive c net m).2 = .processed) :
    m.authentic = true ∧ (c.isTrx || c.accepts m.dst) = true ∧ ((receive c net m).1.node m.dst).admitted = true := by
  have hc := receive_cases c net m
  generalize receive c net m = r at hc h
  cases hc with
  | processed _ _ _ ha hacc _ => exact ⟨ha, hacc, netProcessed_admitted c net m⟩
  | _ => exact h.elim (absurd rfl) nofun

/-- `p` is connected to `o` along peer-table entries -/
inductive Connected (c : Cfg) (o : Node) : Node → Prop
  | origin : Connected c o o
  | hop {i p : Node} : Connected c o i → p ∈ c.peers i → Connected c o p

/-- **Delivered to every node**: in a network of honest nodes whose ledgers admit the item on arrival, when
no message is in flight any more, every node connected to the origin holds the item — for every order of
deliveries, any duplication and injection, but without late admissions by the orphan buffer (`hsteps`: no
`retryAdmit` step). -/
theorem delivered_to_every_connected_node (c : Cfg) (o : Node) (steps : List Step)
    (hall : ∀ i, c.honest i = true) (hacc : ∀ i, (c.isTrx || c.accepts i) = true)
    (hsteps : ∀ s ∈ steps, s.gossipOnly = true) (hq : (reached c o steps).inflight = [])
    (p : Node) (hp : Connected c o p) : ((reached c o steps).node p).admitted = true := by
  have hp' : HonestPath c o p := by
    induction hp with
    | origin => exact .origin (hall o)
    | hop _ hpe ih => exact .hop ih hpe (hall _)
  exact quiescent_covered (reached_inv c o steps) (reached_cov c o steps (fun i _ => hacc i) hsteps) hq hp'

/-- a sequence of deliveries, each of a message that is in flight at that moment -/
def deliverAll (c : Cfg) : Net → List Nat → Option Net
  | net, [] => some net
  | net, k :: ks => if k < net.inflight.length then deliverAll c (deliver c net k).1 ks else none

/-- **Gossip terminates**: every delivery strictly decreases `potential` (messages in flight plus, for every
node below `c.n` that has not seen the item, its peer count plus one), so from any state `net` a run of deliveries
alone is at most `potential c net` long — for every order of deliveries, any number of nodes and every topology in
which only the nodes below `c.n` have peers (`hwf`). What the adversary or duplication put on the wire before `net`
is counted in its potential; `inject` and `duplicate` steps in between are not covered. -/
theorem deliveries_bounded_by_potential (c : Cfg) (hwf : ∀ i, c.n ≤ i → c.peers i = []) (net net' : Net) (ks : List Nat)
    (h : deliverAll c net ks = some net') : ks.length + potential c net' ≤ potential c net := by
  induction ks generalizing net with
  | nil => simp only [deliverAll, Option.some.injEq] at h; subst h; simp
  | cons k ks ih =>
    unfold deliverAll at h
    split at h
    · rename_i hk
      have h1 := ih _ h
      have h2 := deliver_decreases_potential c hwf net k hk
      simp only [List.length_cons]
      omega
    · cases h

/-! ## Refutation: a vertex parked at a relay is never forwarded (known finding)

Line 0 — 1 — 2, origin 0. The item reaches relay 1 before its parent, so the relay's ledger refuses it
(`accepts 1 = false`): nothing is forwarded. The orphan buffer admits it later (`retryAdmit`), again
without forwarding. The network is then quiet and node 2 never gets the item. -/
def lineCfg : Cfg :=
  { n := 3, peers := fun i => if i = 0 then [1] else if i = 1 then [0, 2] else if i = 2 then [1] else [],
    honest := fun _ => true, accepts := fun i => i != 1 }

theorem parked_vertex_is_never_forwarded :
    let net := reached lineCfg 0 [.deliver 0, .retryAdmit 1]
    net.inflight = [] ∧ (net.node 1).admitted = true ∧ (net.node 2).admitted = false := by
  decide +kernel

/-- with a ledger that admits on arrival the same network delivers to node 2 -/
example : let net := reached { lineCfg with accepts := fun _ => true } 0 [.deliver 0, .deliver 0]
    net.inflight = [] ∧ (net.node 1).admitted = true ∧ (net.node 2).admitted = true := by decide +kernel

/-- non-vacuity of `delivered_to_every_connected_node`: node 2 is connected to the origin -/
example : Connected { lineCfg with accepts := fun _ => true } 0 2 :=
  .hop (i := 1) (.hop (i := 0) .origin (by decide)) (by decide)

/-- the potential of the start: at most one message per peer entry of every node, plus one per node -/
example : potential lineCfg (reached lineCfg 0 []) = 1 + (1 + 1) + (2 + 1) + (1 + 1) := by decide +kernel

end Props.C11
