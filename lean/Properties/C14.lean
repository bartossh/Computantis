import Proofs.StreamComplete
import Proofs.DagComplete
import Proofs.LoadComplete
/-!
# C14 — a node that syncs the DAG from a peer reproduces the peer's ledger

`loadDag b stream scan root`: `stream` is what arrives on the channel, `scan` the iteration order of
`GetVertices()` in the linking phase, `root` the root the genesis address is read from (both Go map
orders; the correspondence driver tries them).
Proved here: the all-or-nothing behaviour of the `loaded` flag, the meaning of a successful load, that every kind
of malformed stream named in the property is refused wherever the bad vertex sits (for a duplicate transaction the
statement here has the second copy last; `dup_transaction_refused` is the general one), that the vertices of a reachable,
untruncated ledger, arriving and scanned in any order, are loaded into exactly that ledger's vertices and parent
links, and that the peer's StreamDAG emits every live vertex exactly once. LoadDag does not verify signatures
(honest-peer assumption of the protocol). Balances and the reaction to gossip after a sync are compared per run by
the correspondence — see the `partial` notes of the evidence.
-/
namespace Props.C14
open CModel CModel.Book

/-- All-or-nothing: any error leaves the node marked as not loaded. -/
theorem failed_load_not_loaded (b : Book) (stream scan : List Vertex) (root : Option Vertex) (e : CModel.Err)
    (hb : b.loaded = false) (h : (b.loadDag stream scan root).2 = .error e) :
    (b.loadDag stream scan root).1.loaded = false := by
  rcases loadDag_cases b stream scan root with ⟨_, _, hl⟩ | ⟨_, _, _, _, _, _, hres, _⟩
  · rw [hl, hb]
  · rw [hres] at h; cases h

/-- A node that is already loaded refuses a second load and is unchanged. -/
theorem second_load_refused (b : Book) (stream scan : List Vertex) (root : Option Vertex) (hb : b.loaded = true) :
    b.loadDag stream scan root = (b, .error [.dagLoaded]) := by
  rw [loadDag_eq]; simp [hb]

/-- A successful load marks the node loaded and took the genesis wallet from the root it was given. -/
theorem successful_load (b : Book) (stream scan : List Vertex) (root : Option Vertex)
    (h : (b.loadDag stream scan root).2 = .ok ()) :
    (b.loadDag stream scan root).1.loaded = true ∧
    ∃ r, root = some r ∧ (b.loadDag stream scan root).1.genesis = r.trx.issuer := by
  rcases loadDag_cases b stream scan root with ⟨_, he, _⟩ | ⟨r, _, _, _, _, hr, hres, _⟩
  · rw [he] at h; cases h
  · rw [hres]; exact ⟨rfl, r, hr, rfl⟩

/-- A node that is not loaded refuses proposals and gossip (so a failed load cannot leak into the ledger's use). -/
theorem unloaded_refuses (b : Book) (hb : b.loaded = false) (v : Vertex) (t : Trx) (o1 o2 : List Hash) (tip : Vertex) :
    b.addLeaf v = (b, .error [.notLoaded]) ∧ b.createLeaf t o1 o2 tip = (b, .error [.notLoaded]) := by
  constructor
  · unfold addLeaf; simp [hb]
  · unfold createLeaf; simp [hb]

/-- Malformed streams: the insertion phase ends in an error when the last vertex of the stream carries the transaction
of an earlier one (`dup_transaction_refused`: the same wherever the second copy sits) … -/
theorem duplicate_transaction_refused (s1 s2 : List Vertex) (v v' : Vertex) (ht : v.trx.hash = v'.trx.hash) (b : Book) :
    ((s1 ++ v :: s2 ++ [v']).foldl loadIns (b, none)).2 ≠ none :=
  dup_transaction_refused s1 s2 [] v v' ht b

/-- … and the linking phase ends in an error when any vertex it scans has an empty transaction or a non-canonical
amount. -/
theorem empty_or_noncanonical_refused (scan : List Vertex) (v : Vertex) (hv : v ∈ scan)
    (hbad : v.trx.isEmpty = true ∨ v.trx.spice.canonB = false) (b : Book) :
    (scan.foldl loadLnk (b, false, none)).2.2 ≠ none :=
  loadLnk_bad_vertex scan v hv hbad _

/-- The whole operation refuses a graph with an empty transaction or a non-canonical amount in it. -/
theorem bad_vertex_means_error (b : Book) (stream scan : List Vertex) (root : Option Vertex) (v : Vertex)
    (hv : v ∈ scan) (hbad : v.trx.isEmpty = true ∨ v.trx.spice.canonB = false) :
    (b.loadDag stream scan root).2 ≠ .ok () := by
  intro h
  rcases loadDag_cases b stream scan root with ⟨_, he, _⟩ | ⟨_, b1, _, _, _, _, _, _, _, h2, _⟩
  · rw [he] at h; cases h
  · exact loadLnk_bad_vertex scan v hv hbad (b1, false, none) (by rw [h2])

/-- Non-vacuity: loading genesis + one child into a fresh node succeeds and yields the edge between them. -/
def gv : Vertex := ⟨1, "n", 0, 0, 0, ⟨2, "n", "w", ⟨10, 0⟩, false⟩, true⟩
def cv : Vertex := ⟨3, "n", 1, 1, 1, ⟨4, "w", "x", ⟨3, 0⟩, false⟩, true⟩
example : (({ self := "m" } : Book).loadDag [cv, gv] [cv, gv] (some gv)).2 = .ok () ∧
    (({ self := "m" } : Book).loadDag [cv, gv] [cv, gv] (some gv)).1.edges = [(1, 3)] := by
  constructor <;> rfl

/-- **Syncing reproduces the peer's ledger.** Let `src` be any reachable ledger (any history of proposals,
gossip, orphan retries, trusted-node changes) that has not been truncated, and let its vertices reach a fresh
node in ANY order (`stream`), the loader visiting them in ANY order (`scan`). Then LoadDag succeeds and the node
holds exactly the peer's vertices and exactly the peer's parent links, one index entry per transaction, is
marked loaded and takes its genesis address from the root it was given. Side conditions: on the data, that a
parentless vertex — the genesis — carries a non-empty transaction (`hgen`; otherwise the loader's own guard refuses
it); on the root handed over, that it is a live vertex of the peer with no edge into it (`hroot`, `hrootBare`).
The truncated-peer case is the recorded finding `truncated-peer-cannot-be-synced`. -/
theorem honest_load_reproduces_ledger (src : Book) (r : Reachable src) (hcp : src.cpVerts = [])
    (hgen : ∀ v ∈ src.verts, v.left = 0 → v.trx.isEmpty = false)
    (dst : Book) (hd1 : dst.verts = []) (hd2 : dst.edges = []) (hd3 : dst.index = []) (hd4 : dst.loaded = false)
    (stream scan : List Vertex) (hs : stream.Perm src.verts) (hsc : scan.Perm src.verts)
    (root : Vertex) (hroot : root ∈ src.verts) (hrootBare : ∀ e ∈ src.edges, e.2 ≠ root.hash) :
    (dst.loadDag stream scan (some root)).2 = .ok () ∧
    (dst.loadDag stream scan (some root)).1.loaded = true ∧
    (dst.loadDag stream scan (some root)).1.genesis = root.trx.issuer ∧
    (dst.loadDag stream scan (some root)).1.verts = stream ∧
    (dst.loadDag stream scan (some root)).1.index = stream.map (fun v => (v.trx.hash, v.hash)) ∧
    (∀ e, e ∈ (dst.loadDag stream scan (some root)).1.edges ↔ e ∈ src.edges) := by
  have hall : allV src = src.verts := by rw [allV, hcp, List.append_nil]
  have mem : ∀ {v}, v ∈ stream → v ∈ src.verts := hs.mem_iff.1
  have medge : ∀ {v}, v ∈ stream → ∀ e ∈ edgesOf v, e ∈ src.edges := fun hv e he =>
    (r.mem_edges_iff hcp e).2 ⟨_, mem hv, he⟩
  obtain ⟨rank, hrank⟩ := r.edgeInv.acyclic
  have hrank : ∀ v ∈ stream, ∀ e ∈ edgesOf v, rank e.1 < rank e.2 := fun v hv e he => hrank e (medge hv e he)
  have hclosed : ∀ v ∈ stream, ∀ e ∈ edgesOf v, ∃ p ∈ stream, p.hash = e.1 := fun v hv e he => by
    obtain ⟨p, hp, hpe⟩ := (hasVertex_iff src e.1).1 (r.edgeInv.live e (medge hv e he)).1
    exact ⟨p, hs.mem_iff.2 hp, hpe⟩
  -- a vertex with parents passed the insertion guards; for the one without, non-emptiness is the hypothesis `hgen`
  have hguard : ∀ v ∈ stream, v.trx.isEmpty = false ∧ v.trx.spice.canonB = true := fun v hv =>
    ⟨(r.inv.sealing v (hall ▸ mem hv)).elim (fun hg => hgen v (mem hv) hg.1) (·.2.2), r.inv.canon v (hall ▸ mem hv)⟩
  have hone : ∀ v ∈ stream, ∀ w ∈ stream, v.trx.issuer = v.signer → w.trx.issuer = w.signer → v = w :=
    fun v hv w hw => r.selfOne v (mem hv) w (mem hw)
  obtain ⟨w, h⟩ := loadDag_wellformed dst hd1 hd2 hd3 hd4 stream scan (hsc.trans hs.symm)
    ((hs.map _).nodup_iff.2 r.inv.idx.vertsNodup) ((hs.map _).nodup_iff.2 (hall ▸ r.inv.idx.nodupT)) rank
    hrank hclosed hguard hone root (hs.mem_iff.2 hroot) (fun v hv e he => hrootBare e (medge hv e he))
  rw [h]
  refine ⟨rfl, rfl, rfl, rfl, rfl, fun e => ?_⟩
  rw [List.mem_flatMap, r.mem_edges_iff hcp e]
  exact exists_congr fun v => and_congr_left fun _ => hsc.mem_iff

/-- **The peer's stream is complete**: StreamDAG, visiting the tips in any order, emits every live vertex of
a reachable ledger exactly once. -/
theorem stream_is_complete {src : Book} (r : Reachable src) (order : List Vertex) (ho : order.Perm src.leaves) :
    (src.streamDag order).Perm src.verts :=
  streamDag_perm src r.edgeInv r.inv.idx.vertsNodup order ho

/-- **End to end**: what an honest, untruncated peer streams (tips visited in any order), delivered to a fresh
node in any order and scanned by the loader in any order, reproduces the peer's ledger. -/
theorem stream_then_load_reproduces (src : Book) (r : Reachable src) (hcp : src.cpVerts = [])
    (hgen : ∀ v ∈ src.verts, v.left = 0 → v.trx.isEmpty = false)
    (order : List Vertex) (ho : order.Perm src.leaves)
    (dst : Book) (hd1 : dst.verts = []) (hd2 : dst.edges = []) (hd3 : dst.index = []) (hd4 : dst.loaded = false)
    (arrival scan : List Vertex) (ha : arrival.Perm (src.streamDag order)) (hsc : scan.Perm arrival)
    (root : Vertex) (hroot : root ∈ src.verts) (hrootBare : ∀ e ∈ src.edges, e.2 ≠ root.hash) :
    (dst.loadDag arrival scan (some root)).2 = .ok () ∧
    (dst.loadDag arrival scan (some root)).1.loaded = true ∧
    (dst.loadDag arrival scan (some root)).1.verts = arrival ∧
    (∀ e, e ∈ (dst.loadDag arrival scan (some root)).1.edges ↔ e ∈ src.edges) := by
  have hs := ha.trans (stream_is_complete r order ho)
  obtain ⟨c1, c2, _, c4, _, c6⟩ := honest_load_reproduces_ledger src r hcp hgen dst hd1 hd2 hd3 hd4 arrival scan hs (hsc.trans hs)
    root hroot hrootBare
  exact ⟨c1, c2, c4, c6⟩

end Props.C14
