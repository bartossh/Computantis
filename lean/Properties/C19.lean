import Proofs.MsgpackProofs
/-!
# C19 — vertices and transactions survive every transcoding unchanged

Storage / cache form: `CModel/Msgpack.lean` is the byte-level model of what the vmihailenco v4 encoder
emits and the shamaton v2 decoder accepts for `Melange`, `Transaction`, `Vertex` (compared byte for byte
and field for field with the real libraries on every run). Well-formedness (`WF`) only states what the Go
types guarantee: 64-bit integers, nanoseconds below 10^9, slice lengths below 2^32.
Wire form: the two mappers copy every field; the only conversion is the time stamp, which travels as
`uint64(UnixNano)` and comes back through `int64` — the identity on 64-bit words.
-/
namespace Props.C19
open CModel.Msgpack

theorem no_suffix {α : Type} {p : P α} {e : Bytes} {a : α} (h : ∀ rest, p (e ++ rest) = some (a, rest)) :
    p e = some (a, []) :=
  List.append_nil e ▸ h []

/-- Decoding an encoded vertex gives back exactly that vertex: every field, signed or not, every byte
length (0, 1, 31..33, 255/256, 65535/65536, …), every 64-bit integer, every time stamp form. -/
theorem vertex_roundtrip (v : VertexW) (h : v.WF) : pVertex (encVertex v) = some (v, []) :=
  no_suffix (pVertex_enc v h)

theorem transaction_roundtrip (t : TrxW) (h : t.WF) : pTrx (encTrx t) = some (t, []) :=
  no_suffix (pTrx_enc t h)

theorem amount_roundtrip (m : MelangeW) (h : m.WF) : pMelange (encMelange m) = some (m, []) :=
  no_suffix (pMelange_enc m h)

/-- The encodings are self-delimiting: they round-trip in front of any suffix (values stored back to back). -/
theorem vertex_roundtrip_with_suffix (v : VertexW) (h : v.WF) (rest : Bytes) :
    pVertex (encVertex v ++ rest) = some (v, rest) := pVertex_enc v h rest

/-- Hence the encoding is injective: two different vertices never share a stored form. -/
theorem vertex_encoding_injective (v v' : VertexW) (h : v.WF) (h' : v'.WF) (he : encVertex v = encVertex v') : v = v' := by
  have a := vertex_roundtrip v h
  rw [he, vertex_roundtrip v' h'] at a
  exact (Prod.mk.inj (Option.some.inj a)).1.symm

/-- nil and empty byte slices are kept apart by the codec (msgpack nil vs bin8 of length 0). -/
theorem nil_and_empty_distinct : encBin none ≠ encBin (some []) := by decide

/-- All three timestamp forms decode to the seconds / nanoseconds that were encoded. -/
theorem time_roundtrip (sec nsec : Nat) (hs : sec < 18446744073709551616) (hn : nsec < 1000000000) :
    pTime (encTime sec nsec) = some ((sec, nsec), []) :=
  no_suffix (pTime_enc sec nsec hs hn)

/-- Length headers: every length below 2^32 is carried exactly (str and bin families). -/
theorem str_roundtrip (s : Bytes) (h : s.length < 4294967296) : pStr (encStr s) = some (s, []) :=
  no_suffix (pStr_enc s h)

theorem bin_roundtrip (b : Option Bytes) (h : ∀ x, b = some x → x.length < 4294967296) : pBin (encBin b) = some (b, []) :=
  no_suffix (pBin_enc b h)

/-- Wire: a 64-bit time stamp word comes back as itself. `wireTime` models `uint64 → int64 → uint64` as reduction
modulo 2^64, so the statement is `Nat.mod_eq_of_lt`. -/
theorem wire_time_identity (w : Nat) (h : w < 18446744073709551616) : wireTime w = w := Nat.mod_eq_of_lt h

/-- Non-vacuity: a concrete vertex with a 96-bit time stamp, nil data and an empty signature satisfies `WF`. -/
def sample : VertexW := ⟨[97], 17179869184, 1, some [], ⟨18446744073709551611, 7, [105], [114], [115], none, some [], some [9],
    List.replicate 32 0, ⟨1, 2⟩⟩, List.replicate 32 170, List.replicate 32 0, List.replicate 32 0, 18446744073709551615⟩

theorem sample_wf : sample.WF :=
  ⟨by decide, by decide, by decide, optLen_some _ (by decide),
    ⟨by decide, by decide, by decide, by decide, by decide, nofun, optLen_some _ (by decide), optLen_some _ (by decide),
      by decide, by decide, by decide⟩,
    by decide, by decide, by decide, by decide⟩

example : pVertex (encVertex sample) = some (sample, []) := vertex_roundtrip sample sample_wf

end Props.C19
