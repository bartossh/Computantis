import Proofs.SpiceProofs
import Proofs.Conservation
import Proofs.WalkerProofs
import Proofs.LoadDag
import Proofs.LedgerDag
import Proofs.AwaitProofs
import Proofs.MsgpackProofs
import Proofs.TxProofs
import Proofs.NotaryProofs
import Proofs.GossipProofs
import Proofs.LocksetProofs
import Proofs.Base58
import Proofs.Base256
import Proofs.TruncFunds
import Proofs.DagComplete
import Proofs.LoadComplete
import Proofs.BfsComplete
import Proofs.StreamComplete
import Proofs.TruncBalance
